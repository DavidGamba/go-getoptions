import Model.Program
/-! What `Parse` (user.go) makes of the final state of the argument loop. -/
namespace GoModel

variable (ext : Ext)

/-- `Parse` fails with no remaining list, or succeeds: then the argument loop ended without error, `Parse` itself
reports no required option missing (`requiredAtParse`: it looks at the root level only), no unknown option was given at a
`fail` level, and the remaining list is the loop's -/
theorem parseUser_cases (P : Prog) (args : List Str) :
    (∃ e, (parseUser ext P args).err = some e ∧ (parseUser ext P args).remaining = none) ∨
    ((parseUser ext P args).err = none ∧
      (parseUser ext P args).remaining = some (parseArgs ext (P.node 0).mode P args).rem ∧
      (parseArgs ext (P.node 0).mode P args).err = none ∧
      requiredAtParse (parseArgs ext (P.node 0).mode P args) = none ∧
      unknownPolicy (parseArgs ext (P.node 0).mode P args).unk [] = (none, (parseUser ext P args).warnings)) := by
  unfold parseUser
  dsimp only
  split
  · exact .inl ⟨_, rfl, rfl⟩
  · split
    · exact .inl ⟨_, rfl, rfl⟩
    · split
      · exact .inl ⟨_, rfl, rfl⟩
      · exact .inr ⟨rfl, rfl, ‹_›, ‹_›, ‹_›⟩

/-- the first entry of the log that was given at a `fail` level -/
def firstFail : List (Str × UMode) → Option Str
  | [] => none
  | (u, .fail) :: _ => some u
  | _ :: r => firstFail r

/-- the names the policy warns about: `warn` entries before the first `fail` entry -/
def warnedBefore : List (Str × UMode) → List Str
  | [] => []
  | (_, .fail) :: _ => []
  | (u, .warn) :: r => u :: warnedBefore r
  | (_, .pass) :: r => warnedBefore r

/-- The policy applied after parsing: the error names the first unknown option given at a `fail`
level (in command-line order); every `warn`-level unknown option before it produces one warning, in
order; `pass`-level ones produce nothing. -/
theorem unknownPolicy_spec (unk : List (Str × UMode)) (w : List Str) :
    unknownPolicy unk w = ((firstFail unk).map UErr.unknown, w ++ warnedBefore unk) := by
  induction unk generalizing w with
  | nil => simp [unknownPolicy, firstFail, warnedBefore]
  | cons x r ih =>
    obtain ⟨u, m⟩ := x
    cases m <;> simp [unknownPolicy, firstFail, warnedBefore, ih]

theorem dispatch_ran_inv (s : PState) (rem : List Str) (f n : Nat) (args : List Str)
    (h : dispatch ext s rem = .ran f n args) :
    (s.P.node s.cur).fn = some f ∧ n = s.cur ∧ args = rem := by
  unfold dispatch at h
  cases hh : helpRequested s.P s.cur with
  | true => simp only [hh, ↓reduceIte] at h; cases h
  | false =>
    cases hr : checkRequired s.P s.cur with
    | some e => simp only [hh, hr, Bool.false_eq_true, ↓reduceIte] at h; cases h
    | none =>
      cases hi : (s.P.node s.cur).isHelp with
      | true =>
        simp only [hh, hr, hi, Bool.false_eq_true, ↓reduceIte] at h
        split at h
        · cases h
        · split at h <;> cases h
      | false =>
        cases hf : (s.P.node s.cur).fn with
        | some f' =>
          simp only [hh, hr, hi, hf, Bool.false_eq_true, ↓reduceIte] at h
          cases h; exact ⟨rfl, rfl, rfl⟩
        | none =>
          simp only [hh, hr, hi, hf, Bool.false_eq_true, ↓reduceIte] at h
          split at h
          · split at h <;> cases h
          · cases h

end GoModel
