import Model.Dag
/-! `DepthFirstSort`: soundness (a successful sort is a duplicate-free order with every child before its
parents) and completeness (a reported cycle is a cycle).

The recursion of `visit` through the loop over its children is named once (`visitAll`, which is also the outer
loop) and has one induction principle (`visitAll_induct`); every fact about the sort is one application of it. -/
namespace GoModel.Dag

/-- children-before-parents for everything already emitted -/
def Topo (children : Nat → List Nat) (l : List Nat) : Prop :=
  ∀ l1 v l2, l = l1 ++ v :: l2 → ∀ c ∈ children v, c ∈ l1

/-- nonempty path along child (dependency) edges -/
inductive Path (children : Nat → List Nat) : Nat → Nat → Prop
  | edge {a c} : c ∈ children a → Path children a c
  | cons {a c d} : c ∈ children a → Path children c d → Path children a d

theorem Path.snoc {children a c d} (h : Path children a c) (e : d ∈ children c) : Path children a d := by
  induction h with
  | edge h1 => exact .cons h1 (.edge e)
  | cons h1 _ ih => exact .cons h1 (ih e)

/-- the loop of `visit` over the children of a vertex -/
def visitAll (children : Nat → List Nat) (f : Nat) (s : DfsState) (vs : List Nat) : Except DfsErr DfsState :=
  vs.foldlM (fun st c => visit children f st c) s

/-- the state in which `visit` leaves a vertex whose children have all been handled -/
def DfsState.finish (s : DfsState) (v : Nat) : DfsState :=
  { status := (s.set v .traversed).status, sorted := s.sorted ++ [v] }

theorem DfsState.set_status (s : DfsState) (v : Nat) (m : Mark) (x : Nat) :
    (s.set v m).status x = if x = v then m else s.status x := rfl

theorem DfsState.finish_status (s : DfsState) (v x : Nat) :
    (s.finish v).status x = if x = v then .traversed else s.status x := rfl

theorem visitAll_cons (children : Nat → List Nat) (f : Nat) (s : DfsState) (v : Nat) (vs : List Nat) :
    visitAll children f s (v :: vs) =
      match visit children f s v with
      | .error e => .error e
      | .ok s1 => visitAll children f s1 vs := by
  simp only [visitAll, List.foldlM_cons, bind, Except.bind]
  cases visit children f s v <;> rfl

theorem visit_succ (children : Nat → List Nat) (f : Nat) (s : DfsState) (v : Nat) :
    visit children (f + 1) s v =
      match s.status v with
      | .traversed => .ok s
      | .visited => .error (.cycle v)
      | .unvisited =>
        match visitAll children f (s.set v .visited) (children v) with
        | .error e => .error e
        | .ok s1 => .ok (s1.finish v) := by
  rw [visit]; rfl

theorem visit_eq_visitAll (children : Nat → List Nat) (f : Nat) (s : DfsState) (v : Nat) :
    visit children f s v = visitAll children f s [v] := by
  rw [visitAll_cons]; cases visit children f s v <;> rfl

/-- **Functional induction for `DepthFirstSort`**: the one recursion (fuel, then the list of vertices still
to visit), with the result of the run as an index of the motive. -/
theorem visitAll_induct {children : Nat → List Nat}
    {M : Nat → DfsState → List Nat → Except DfsErr DfsState → Prop}
    (nil : ∀ f s, M f s [] (.ok s))
    (fuel : ∀ s v vs, M 0 s (v :: vs) (.error .fuel))
    (trav : ∀ f s v vs, s.status v = .traversed → M (f + 1) s vs (visitAll children (f + 1) s vs) →
      M (f + 1) s (v :: vs) (visitAll children (f + 1) s vs))
    (gray : ∀ f s v vs, s.status v = .visited → M (f + 1) s (v :: vs) (.error (.cycle v)))
    (fail : ∀ f s v vs e, s.status v = .unvisited →
      M f (s.set v .visited) (children v) (.error e) → M (f + 1) s (v :: vs) (.error e))
    (node : ∀ f s v vs s1, s.status v = .unvisited →
      visitAll children f (s.set v .visited) (children v) = .ok s1 →
      M f (s.set v .visited) (children v) (.ok s1) →
      M (f + 1) (s1.finish v) vs (visitAll children (f + 1) (s1.finish v) vs) →
      M (f + 1) s (v :: vs) (visitAll children (f + 1) (s1.finish v) vs))
    (f : Nat) (s : DfsState) (vs : List Nat) : M f s vs (visitAll children f s vs) := by
  induction f generalizing s vs with
  | zero =>
    cases vs with
    | nil => exact nil 0 s
    | cons v vs => exact fuel s v vs
  | succ f ihf =>
    induction vs generalizing s with
    | nil => exact nil _ s
    | cons v vs ihv =>
      rw [visitAll_cons, visit_succ]
      cases hs : s.status v with
      | traversed => exact trav f s v vs hs (ihv s)
      | visited => exact gray f s v vs hs
      | unvisited =>
        have h1 := ihf (s.set v .visited) (children v)
        cases hc : visitAll children f (s.set v .visited) (children v) with
        | error e => rw [hc] at h1; exact fail f s v vs e hs h1
        | ok s1 => rw [hc] at h1; exact node f s v vs s1 hs hc h1 (ihv (s1.finish v))

variable {children : Nat → List Nat} {f : Nat} {s s' : DfsState} {vs : List Nat}

/-- a status only ever moves forward, and only from unvisited to traversed -/
theorem visitAll_status (h : visitAll children f s vs = .ok s') (x : Nat) :
    s'.status x = s.status x ∨ (s.status x = .unvisited ∧ s'.status x = .traversed) := by
  induction f, s, vs using visitAll_induct generalizing s' with
  | nil => cases h; exact .inl rfl
  | fuel | gray | fail => cases h
  | trav _ _ _ _ _ ih => exact ih h
  | node _ s v _ s1 hu _ ih1 ih2 =>
    have h1 := ih1 rfl
    have h2 := ih2 h
    rw [DfsState.set_status] at h1
    rw [DfsState.finish_status] at h2
    by_cases hx : x = v
    · subst hx
      rw [if_pos rfl] at h2
      exact .inr ⟨hu, by simpa using h2⟩
    · rw [if_neg hx] at h1 h2
      rcases h1 with h1 | ⟨h1, h1'⟩
      · rw [h1] at h2; exact h2
      · rw [h1'] at h2; exact .inr ⟨h1, by simpa using h2⟩

theorem visitAll_visited_iff (h : visitAll children f s vs = .ok s') (x : Nat) :
    s'.status x = .visited ↔ s.status x = .visited := by
  rcases visitAll_status h x with e | ⟨e1, e2⟩
  · rw [e]
  · rw [e1, e2]; simp

theorem visitAll_traversed (h : visitAll children f s vs = .ok s') (x : Nat) (hx : s.status x = .traversed) :
    s'.status x = .traversed := by
  rcases visitAll_status h x with e | ⟨e1, _⟩
  · rw [e, hx]
  · rw [hx] at e1; cases e1

theorem visitAll_seen (h : visitAll children f s vs = .ok s') (x : Nat) (hx : s.status x ≠ .unvisited) :
    s'.status x ≠ .unvisited := by
  rcases visitAll_status h x with e | ⟨e1, _⟩
  · rw [e]; exact hx
  · exact absurd e1 hx

/-- from a state without gray vertices the outer loop is the children loop -/
theorem dfsLoop_eq_visitAll (f : Nat) (order : List Nat) (s : DfsState) (hg : ∀ x, s.status x ≠ .visited) :
    dfsLoop children (f + 1) order s = visitAll children (f + 1) s order := by
  induction order generalizing s with
  | nil => rfl
  | cons v r ih =>
    rw [visitAll_cons, dfsLoop]
    cases hs : s.status v with
    | visited => exact absurd hs (hg v)
    | traversed => simp only [visit_succ, hs]; exact ih s hg
    | unvisited =>
      simp only
      cases hv : visit children (f + 1) s v with
      | error e => rfl
      | ok s1 =>
        rw [visit_eq_visitAll] at hv
        exact ih s1 fun x hx => hg x ((visitAll_visited_iff hv x).1 hx)

theorem dfsFrom_eq (g : GState) (order : List Nat) :
    dfsFrom g order = (visitAll g.children (g.verts.length + 1) {} order).map (·.sorted) := by
  rw [dfsFrom, dfsLoop_eq_visitAll _ _ _ (fun x => by simp)]

theorem dfsFrom_ok {g : GState} {order l : List Nat} (h : dfsFrom g order = .ok l) :
    ∃ s, visitAll g.children (g.verts.length + 1) {} order = .ok s ∧ s.sorted = l := by
  rw [dfsFrom_eq] at h
  cases hl : visitAll g.children (g.verts.length + 1) {} order with
  | error e => rw [hl] at h; cases h
  | ok s => rw [hl] at h; cases h; exact ⟨s, rfl, rfl⟩

theorem dfsFrom_error {g : GState} {order : List Nat} {e : DfsErr} (h : dfsFrom g order = .error e) :
    visitAll g.children (g.verts.length + 1) {} order = .error e := by
  rw [dfsFrom_eq] at h
  cases hl : visitAll g.children (g.verts.length + 1) {} order with
  | error e' => rw [hl] at h; cases h; rfl
  | ok s => rw [hl] at h; cases h

structure DInv (children : Nat → List Nat) (ds : DfsState) : Prop where
  trav_iff : ∀ v, ds.status v = .traversed ↔ v ∈ ds.sorted
  nodup : ds.sorted.Nodup
  topo : Topo children ds.sorted

theorem dinv_init (children : Nat → List Nat) : DInv children {} :=
  ⟨fun v => by simp, by simp, fun l1 v l2 h => by simp at h⟩

theorem inv_set_visited {ds v} (hinv : DInv children ds) (hu : ds.status v = .unvisited) :
    DInv children (ds.set v .visited) := by
  refine ⟨fun x => ?_, hinv.nodup, hinv.topo⟩
  simp only [DfsState.set]
  by_cases hx : x = v
  · subst hx
    have : x ∉ ds.sorted := fun hm => by
      have := (hinv.trav_iff x).2 hm; simp [hu] at this
    simp [this]
  · simp [hx, hinv.trav_iff x]

theorem topo_snoc {l : List Nat} {v : Nat} (ht : Topo children l)
    (hv : ∀ c ∈ children v, c ∈ l) : Topo children (l ++ [v]) := by
  intro l1 x l2 hsplit c hc
  cases l2 with
  | nil =>
    obtain ⟨rfl, hx⟩ := List.append_inj' hsplit rfl
    cases hx; exact hv c hc
  | cons a m =>
    have hm : l = l1 ++ x :: (a :: m).dropLast := by
      have := congrArg List.dropLast hsplit
      simpa [List.dropLast_append_cons, List.dropLast_concat] using this
    exact ht l1 x _ hm c hc

/-- a gray vertex whose children are all emitted can be emitted -/
theorem dinv_finish {v : Nat} (h : DInv children s)
    (hv : s.status v = .visited) (hc : ∀ c ∈ children v, s.status c = .traversed) : DInv children (s.finish v) := by
  have hvnot : v ∉ s.sorted := fun hm => by have := (h.trav_iff v).2 hm; rw [hv] at this; cases this
  refine ⟨fun x => ?_, ?_, topo_snoc h.topo fun c hc' => (h.trav_iff c).1 (hc c hc')⟩
  · simp only [DfsState.finish, DfsState.set]
    by_cases hx : x = v
    · subst hx; simp
    · simp [hx, h.trav_iff x]
  · exact List.nodup_append.mpr
      ⟨h.nodup, by simp, fun a ha b hb => by simp at hb; subst hb; intro e; exact hvnot (e ▸ ha)⟩

theorem visitAll_sound (h : visitAll children f s vs = .ok s') (hi : DInv children s) :
    DInv children s' ∧ ∀ c ∈ vs, s'.status c = .traversed := by
  induction f, s, vs using visitAll_induct generalizing s' with
  | nil => cases h; exact ⟨hi, by simp⟩
  | fuel | gray | fail => cases h
  | trav _ _ v _ ht ih =>
    have ⟨a, b⟩ := ih h hi
    exact ⟨a, List.forall_mem_cons.2 ⟨visitAll_traversed h v ht, b⟩⟩
  | node _ s v _ s1 hu hc ih1 ih2 =>
    have ⟨i1, t1⟩ := ih1 rfl (inv_set_visited hi hu)
    have hv1 : s1.status v = .visited := (visitAll_visited_iff hc v).2 (by simp [DfsState.set_status])
    have ⟨a, b⟩ := ih2 h (dinv_finish i1 hv1 t1)
    exact ⟨a, List.forall_mem_cons.2 ⟨visitAll_traversed h v (by simp [DfsState.finish_status]), b⟩⟩

theorem dfsFrom_sound (g : GState) (order l : List Nat) (h : dfsFrom g order = .ok l) :
    l.Nodup ∧ Topo g.children l ∧ ∀ v ∈ order, v ∈ l := by
  obtain ⟨s, hs, rfl⟩ := dfsFrom_ok h
  have ⟨a, c⟩ := visitAll_sound hs (dinv_init _)
  exact ⟨a.nodup, a.topo, fun v hv => (a.trav_iff v).1 (c v hv)⟩

/-- every gray vertex has a path to each vertex still to be visited, so running into a gray vertex closes a cycle -/
theorem visitAll_cycle {w : Nat} (h : visitAll children f s vs = .error (.cycle w))
    (hg : ∀ c ∈ vs, ∀ x, s.status x = .visited → Path children x c) : Path children w w := by
  induction f, s, vs using visitAll_induct with
  | nil | fuel => cases h
  | trav _ _ _ _ _ ih => exact ih h fun c hc => hg c (List.mem_cons_of_mem _ hc)
  | gray _ _ _ _ hs => cases h; exact hg _ List.mem_cons_self _ hs
  | fail _ s v _ e hu ih =>
    cases h
    refine ih rfl fun c hc x hx => ?_
    rw [DfsState.set_status] at hx
    by_cases hxv : x = v
    · subst hxv; exact .edge hc
    · rw [if_neg hxv] at hx; exact (hg v List.mem_cons_self x hx).snoc hc
  | node _ s v _ s1 hu hc _ ih2 =>
    refine ih2 h fun c hc' x hx => hg c (List.mem_cons_of_mem _ hc') x ?_
    -- gray after the visit of `v` means gray before it
    rw [DfsState.finish_status] at hx
    have hxv : x ≠ v := by intro e; rw [if_pos e] at hx; cases hx
    rw [if_neg hxv] at hx
    simpa [DfsState.set_status, hxv] using (visitAll_visited_iff hc x).1 hx

theorem topo_path_before {l : List Nat} (ht : Topo children l) {a c : Nat}
    (hp : Path children a c) : ∀ l1 l2, l = l1 ++ a :: l2 → c ∈ l1 := by
  induction hp with
  | edge h => intro l1 l2 hl; exact ht l1 _ l2 hl _ h
  | @cons a0 c0 d0 h _ ih =>
    intro l1 l2 hl
    have hc := ht l1 _ l2 hl _ h
    obtain ⟨m1, m2, hm⟩ := List.append_of_mem hc
    have := ih m1 (m2 ++ a0 :: l2) (by rw [hl, hm]; simp)
    rw [hm]; simp [this]

/-- a children-first order without duplicates excludes cycles through its members -/
theorem topo_acyclic {l : List Nat} (ht : Topo children l) (hn : l.Nodup)
    (v : Nat) (hv : v ∈ l) : ¬ Path children v v := by
  intro hp
  obtain ⟨l1, l2, hl⟩ := List.append_of_mem hv
  have := topo_path_before ht hp l1 l2 hl
  rw [hl] at hn
  have := (List.nodup_append.mp hn).2.2 v this v (by simp)
  exact this rfl

/-- if `R` holds of the start vertices and is closed under children, it holds of everything emitted -/
theorem visitAll_sorted_reg (R : Nat → Prop) (hR : ∀ a, R a → ∀ ch ∈ children a, R ch)
    (h : visitAll children f s vs = .ok s') (hvs : ∀ v ∈ vs, R v) (hs : ∀ x ∈ s.sorted, R x) :
    ∀ x ∈ s'.sorted, R x := by
  induction f, s, vs using visitAll_induct generalizing s' with
  | nil => cases h; exact hs
  | fuel | gray | fail => cases h
  | trav _ _ _ _ _ ih => exact ih h (List.forall_mem_cons.1 hvs).2 hs
  | node _ s v _ s1 _ _ ih1 ih2 =>
    have ⟨hv, hvs'⟩ := List.forall_mem_cons.1 hvs
    refine ih2 h hvs' fun x hx => ?_
    rcases List.mem_append.mp hx with hx | hx
    · exact ih1 rfl (hR v hv) hs x hx
    · rw [List.mem_singleton.mp hx]; exact hv

def unseen (ids : List Nat) (ds : DfsState) : Nat := (ids.filter fun x => ds.status x == .unvisited).length

theorem unseen_mono (ids : List Nat) (a d : DfsState) (h : ∀ x, a.status x ≠ .unvisited → d.status x ≠ .unvisited) :
    unseen ids d ≤ unseen ids a := by
  unfold unseen
  rw [← List.countP_eq_length_filter, ← List.countP_eq_length_filter]
  exact List.countP_mono_left fun x _ hd => by
    have := h x; simp only [ne_eq, beq_iff_eq] at *; exact Decidable.not_imp_not.1 this hd

/-- marking an unseen registered vertex removes exactly it from the unseen ones -/
theorem unseen_set (ids : List Nat) (ds : DfsState) (v : Nat) (hn : ids.Nodup) (hv : v ∈ ids)
    (hu : ds.status v = .unvisited) : unseen ids (ds.set v .visited) + 1 = unseen ids ds := by
  have hmem : v ∈ ids.filter fun x => ds.status x == .unvisited := List.mem_filter.2 ⟨hv, by simp [hu]⟩
  have : (ids.filter fun x => (ds.set v .visited).status x == .unvisited) =
      (ids.filter fun x => ds.status x == .unvisited).erase v := by
    rw [List.Nodup.erase_eq_filter (hn.filter _), List.filter_filter]
    refine List.filter_congr fun x _ => ?_
    rw [DfsState.set_status]; by_cases e : x = v <;> simp [e]
  unfold unseen
  rw [this, List.length_erase_of_mem hmem]
  have := List.length_pos_of_mem hmem
  omega

/-- **Fuel suffices.** With more fuel than unseen registered vertices, the sort never reports `fuel`. -/
theorem visitAll_no_fuel {children : Nat → List Nat} (ids : List Nat) (hn : ids.Nodup)
    (hclosed : ∀ a, a ∈ ids → ∀ c ∈ children a, c ∈ ids) {f : Nat} {s : DfsState} {vs : List Nat}
    (hvs : ∀ v ∈ vs, v ∈ ids) (hlt : unseen ids s < f) : visitAll children f s vs ≠ .error .fuel := by
  induction f, s, vs using visitAll_induct with
  | nil | gray => intro h; cases h
  | fuel => omega
  | trav _ _ _ _ _ ih => exact ih (List.forall_mem_cons.1 hvs).2 hlt
  | fail _ s v _ e hu ih =>
    have hv := (List.forall_mem_cons.1 hvs).1
    have hset := unseen_set ids s v hn hv hu
    intro he; cases he
    exact ih (hclosed v hv) (by omega) rfl
  | node _ s v _ s1 hu hc _ ih2 =>
    -- fuel for the rest of the list: nothing seen so far has become unseen again
    refine ih2 (List.forall_mem_cons.1 hvs).2 (Nat.lt_of_le_of_lt (unseen_mono ids s _ fun x hx => ?_) hlt)
    rw [DfsState.finish_status]
    split
    · simp
    · exact visitAll_seen hc x (by rw [DfsState.set_status]; split <;> simp [hx])

end GoModel.Dag
