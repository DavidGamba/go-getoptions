import Lemmas.Sched
import Lemmas.Dfs
/-! `DepthFirstSort` on a well-formed graph (fuel suffices, only registered vertices are emitted), and the fuel-bounded
ancestor computation on an acyclic one (it is closed under parents). -/
namespace GoModel.Dag

theorem closed_of_ginv {g : GState} (h : GInv g) : ∀ a, a ∈ g.ids → ∀ c ∈ g.children a, c ∈ g.ids :=
  fun a _ c hc => (has_iff_mem_ids g c).mp (h.kids a c hc)

theorem dfsFrom_no_fuel (g : GState) (h : GInv g) (order : List Nat) (ho : ∀ v ∈ order, v ∈ g.ids) :
    dfsFrom g order ≠ .error .fuel := fun he =>
  visitAll_no_fuel g.ids h.nodup (closed_of_ginv h) ho
    (by rw [← List.length_map (f := (·.id))]; exact Nat.lt_succ_of_le (List.length_filter_le _ _))
    (dfsFrom_error he)

theorem dfsFrom_sub (g : GState) (hg : GInv g) (order l : List Nat) (ho : ∀ v ∈ order, v ∈ g.ids)
    (h : dfsFrom g order = .ok l) : ∀ x ∈ l, x ∈ g.ids := by
  obtain ⟨s, hs, rfl⟩ := dfsFrom_ok h
  exact visitAll_sorted_reg (· ∈ g.ids) (closed_of_ginv hg) hs ho (by simp)

/-- in a duplicate-free list, an element of the part in front of `p` has more elements behind it than `p` has -/
theorem behind_lt {l1 l2 m1 m2 : List Nat} {v p : Nat} (hn : (l1 ++ v :: l2).Nodup)
    (he : l1 ++ v :: l2 = m1 ++ p :: m2) (hv : v ∈ m1) : m2.length < l2.length := by
  have hv1 : v ∉ l1 := fun h => (List.nodup_append.1 hn).2.2 v h v List.mem_cons_self rfl
  have h1 : (l1 ++ v :: l2).idxOf v = l1.length := by simp [List.idxOf_append, hv1]
  have h2 : (m1 ++ p :: m2).idxOf v < m1.length := by
    rw [List.idxOf_append, if_pos hv]; exact List.idxOf_lt_length_of_mem hv
  have h3 := congrArg List.length he
  rw [he] at h1
  simp only [List.length_append, List.length_cons] at h3
  omega

theorem mem_ancestors_succ (g : GState) (f v x : Nat) :
    x ∈ ancestors g (f + 1) v ↔ ∃ p ∈ g.parents v, x = p ∨ x ∈ ancestors g f p := by
  simp [ancestors, List.mem_flatMap]

theorem path_of_mem_ancestors {g : GState} (hsym : ∀ a ch, ch ∈ g.children a ↔ a ∈ g.parents ch) :
    ∀ (f v x : Nat), x ∈ ancestors g f v → Path g.children x v
  | 0, _, _, h => by simp [ancestors] at h
  | f + 1, v, x, h => by
    obtain ⟨p, hp, hx⟩ := (mem_ancestors_succ g f v x).1 h
    have e := (hsym p v).mpr hp
    rcases hx with rfl | hx
    · exact .edge e
    · exact (path_of_mem_ancestors hsym f p x hx).snoc e

/-- one more unit of fuel reaches the parents of everything reached so far -/
theorem ancestors_parent (g : GState) (f : Nat) : ∀ v x q, x ∈ ancestors g f v → q ∈ g.parents x →
    q ∈ ancestors g (f + 1) v := by
  induction f with
  | zero => intro v x q hx; simp [ancestors] at hx
  | succ f ih =>
    intro v x q hx hq
    rw [mem_ancestors_succ] at hx
    obtain ⟨p, hp, hx⟩ := hx
    rw [mem_ancestors_succ]
    refine ⟨p, hp, Or.inr ?_⟩
    rcases hx with rfl | hx
    · rw [mem_ancestors_succ]; exact ⟨q, hq, Or.inl rfl⟩
    · exact ih p x q hx hq

/-- with a children-first order `l` of all vertices, `m` units of fuel suffice for a vertex that has
at most `m` vertices behind it: they reach whatever any amount `f` of fuel reaches -/
theorem ancestors_saturate (g : GState) (l : List Nat) (hn : l.Nodup) (ht : Topo g.children l)
    (hreg : ∀ v p, p ∈ g.parents v → p ∈ l) (hsym : ∀ a ch, ch ∈ g.children a ↔ a ∈ g.parents ch) (m : Nat) :
    ∀ v l1 l2, l = l1 ++ v :: l2 → l2.length ≤ m → ∀ f x, x ∈ ancestors g f v → x ∈ ancestors g m v := by
  intro v l1 l2 hl hlen f
  induction f generalizing m v l1 l2 with
  | zero => intro x hx; simp [ancestors] at hx
  | succ f ih =>
    intro x hx
    obtain ⟨p, hp, hx⟩ := (mem_ancestors_succ g f v x).1 hx
    -- the parent `p` of `v` stands behind `v` in `l`, so fewer vertices stand behind `p`
    obtain ⟨m1, m2, hm⟩ := List.append_of_mem (hreg v p hp)
    have hlt := behind_lt (hl ▸ hn) (hl ▸ hm) (ht m1 p m2 hm v ((hsym p v).mpr hp))
    cases m with
    | zero => omega
    | succ m => exact (mem_ancestors_succ g m v x).2 ⟨p, hp, hx.imp_right (ih m p m1 m2 hm (by omega) x)⟩

/-- **The ancestor marking is closed**: on a well-formed graph that passed the cycle check. -/
theorem ancOK_of_dfs (c : Cfg) (hg : GInv c.g) (l : List Nat) (hd : dfs c.g = .ok l) : AncOK c := by
  have ⟨hn, ht, hall⟩ := dfsFrom_sound c.g c.g.ids l hd
  have hreg : ∀ v p, p ∈ c.g.parents v → p ∈ l := fun v p hp =>
    hall p ((has_iff_mem_ids c.g p).mp (hg.pars v p hp))
  refine ⟨?_, ?_, hg.sym⟩
  · intro v p hp
    unfold anc
    rw [mem_ancestors_succ]; exact ⟨p, hp, Or.inl rfl⟩
  · intro v x q hx hq
    unfold anc at hx ⊢
    have hstep := ancestors_parent c.g _ v x q hx hq
    -- v has a parent, so v is registered and sits somewhere in l
    have hvl : v ∈ l := by
      obtain ⟨p, hp, _⟩ := (mem_ancestors_succ c.g _ v x).1 hx
      exact hall v ((has_iff_mem_ids c.g v).mp (has_of_mem_field (π := Vertex.parents) hp))
    obtain ⟨l1, l2, hl⟩ := List.append_of_mem hvl
    -- the order has at most |V| elements: it is duplicate free and consists of registered vertices
    have hlen : l.length ≤ c.g.verts.length := by
      have := List.Nodup.length_le_of_subset hn (dfsFrom_sub c.g hg _ l (fun _ hv => hv) hd)
      simpa [GState.ids] using this
    have hl2 : l2.length ≤ c.g.verts.length + 1 := by
      have : l.length = l1.length + (l2.length + 1) := by rw [hl]; simp
      omega
    exact ancestors_saturate c.g l hn ht hreg hg.sym _ v l1 l2 hl hl2 _ q hstep

end GoModel.Dag
