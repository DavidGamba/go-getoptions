import Lemmas.Bundle
import Lemmas.Collect
/-! Positions where an option token is interpreted: a head position, or right behind an option that
is still collecting values (nothing pending) — an option-looking token is never taken as such a value. -/
namespace GoModel

variable (ext : Ext) (mode : Mode)

/-- the state in which the refused token is looked at again -/
def refused (s : PState) : PState := { s with ctx := .idle, pending := [] }

theorem step_collecting_optlike (s : PState) (o i : Nat) (t : Str) (he : s.err = none)
    (hc : s.ctx = .collecting o i) (hp : s.pending = []) (hl : looksLikeOption t mode = true) :
    step ext mode s t =
      if (i : Int) < (s.P.opt o).min then { s with err := some (.dashArg (s.P.opt o).usedAlias) }
      else step ext mode (refused s) t := by
  by_cases h1 : (i : Int) < (s.P.opt o).min
  · rw [if_pos h1]
    rw [step_collecting ext mode s o i t he hc hp, offer_eq, if_pos h1, hl]
    rfl
  · have hr : refused s = { s with ctx := .idle } := by unfold refused; rw [← hp]
    rw [if_neg h1, hr]
    exact refused_as_idle ext mode s o i t he hc hp h1 (.inl hl)

/-- an option may start here -/
def OptStart (s : PState) : Prop :=
  s.err = none ∧ (s.ctx = .idle ∨ ∃ o i, s.ctx = .collecting o i ∧ s.pending = [])

theorem refused_obs (s : PState) : (refused s).P = s.P ∧ (refused s).cur = s.cur ∧ (refused s).err = s.err ∧
    (refused s).ctx = .idle := ⟨rfl, rfl, rfl, rfl⟩

/-- Wherever an option may start, two token lists that begin with an option-looking token are related by any reflexive
`Q` as soon as they are at every head position with the store and command of `s`: behind an open occurrence both first
tokens fail alike (a mandatory argument is missing) or are both looked at again from the idle state.  The primed lemmas
below are the head-position lemmas of `Lemmas/Bundle.lean` carried this way to wherever an option may start. -/
theorem at_optstart {Q : PState → PState → Prop} (hrefl : ∀ x, Q x x) (s : PState) (t t' : Str) (us vs : List Str)
    (hs : OptStart s) (hl : looksLikeOption t mode = true) (hl' : looksLikeOption t' mode = true)
    (hhead : ∀ s0 : PState, s0.P = s.P → s0.cur = s.cur → s0.err = none → s0.ctx = .idle →
      Q ((t :: us).foldl (step ext mode) s0) ((t' :: vs).foldl (step ext mode) s0)) :
    Q ((t :: us).foldl (step ext mode) s) ((t' :: vs).foldl (step ext mode) s) := by
  obtain ⟨he, hc | ⟨o, i, hc, hp⟩⟩ := hs
  · exact hhead s rfl rfl he hc
  · rw [List.foldl_cons, List.foldl_cons, step_collecting_optlike ext mode s o i t he hc hp hl,
      step_collecting_optlike ext mode s o i t' he hc hp hl']
    split
    · rw [foldl_err ext mode _ us rfl, foldl_err ext mode _ vs rfl]; exact hrefl _
    · exact hhead (refused s) rfl rfl he rfl

/-- `at_optstart` for one token against one token -/
theorem step_at_optstart {Q : PState → PState → Prop} (hrefl : ∀ x, Q x x) (s : PState) (t t' : Str)
    (hs : OptStart s) (hl : looksLikeOption t mode = true) (hl' : looksLikeOption t' mode = true)
    (hhead : ∀ s0 : PState, s0.P = s.P → s0.cur = s.cur → s0.err = none → s0.ctx = .idle →
      Q (step ext mode s0 t) (step ext mode s0 t')) :
    Q (step ext mode s t) (step ext mode s t') :=
  at_optstart ext mode hrefl s t t' [] [] hs hl hl' hhead

theorem same_pair_sim' (s : PState) (t t' : Str) (p : Pair) (hs : OptStart s)
    (ht : isOption t mode = ([p], true)) (ht' : isOption t' mode = ([p], true)) (hk : Known s p) :
    Sim (step ext mode s t) (step ext mode s t') :=
  step_at_optstart ext mode Sim.refl s t t' hs (looks_of_isOption mode t _ ht) (looks_of_isOption mode t' _ ht')
    (fun s0 hP hc he hi => same_pair_sim ext mode s0 t t' p he hi ht ht' (hk.of_eq hP hc))

theorem abbrev_sim' (s : PState) (t t' : Str) (k k' : Str) (args : List Str) (hs : OptStart s)
    (ht : isOption t mode = ([⟨k, args⟩], true)) (ht' : isOption t' mode = ([⟨k', args⟩], true))
    (h : resolve (s.P.node s.cur) k = [k']) (h' : resolve (s.P.node s.cur) k' = [k']) :
    Sim (step ext mode s t) (step ext mode s t') :=
  step_at_optstart ext mode Sim.refl s t t' hs (looks_of_isOption mode t _ ht) (looks_of_isOption mode t' _ ht')
    (fun s0 hP hc he hi => abbrev_sim ext mode s0 t t' k k' args he hi ht ht'
      (by rw [hP, hc]; exact h) (by rw [hP, hc]; exact h'))

theorem bundle_rewrite_sim' (s : PState) (t tl : Str) (ts : List Str) (ps : List Pair) (pz : Pair)
    (hs : OptStart s)
    (ht : isOption t mode = (ps ++ [pz], true)) (hts : Splits mode ts ps)
    (htl : isOption tl mode = ([pz], true))
    (hf : ∀ p ∈ ps, FlagPair s p) (hz : Known s pz) :
    Sim (step ext mode s t) ((ts ++ [tl]).foldl (step ext mode) s) := by
  -- the first token of the rewriting looks like an option as well
  obtain ⟨t1, rest, hl1, hlk1⟩ : ∃ t1 rest, ts ++ [tl] = t1 :: rest ∧ looksLikeOption t1 mode = true := by
    cases hts with
    | nil => exact ⟨tl, [], rfl, looks_of_isOption mode tl _ htl⟩
    | cons h1 _ => exact ⟨_, _, rfl, looks_of_isOption mode _ _ h1⟩
  rw [hl1]
  refine at_optstart ext mode Sim.refl s t t1 [] rest hs (looks_of_isOption mode t _ ht) hlk1 fun s0 hP hc he hi => ?_
  rw [← hl1]
  exact bundle_rewrite_sim ext mode s0 t tl ts ps pz he hi ht hts htl (fun p hp => (hf p hp).of_eq hP hc) (hz.of_eq hP hc)

end GoModel
