import Lemmas.Sort
/-! A Go map is an association list read with `lookup` and written with `insertKV`: what a read finds, what a later
read finds after a write, and that the keys stay distinct.  Also: a list through `getD`, a string through `hasPrefix`
and `containsByte`. -/
namespace GoModel

theorem getD_map {α β} (f : α → β) (l : List α) (i : Nat) (d : α) : (l.map f).getD i (f d) = f (l.getD i d) := by
  rw [List.getD_eq_getElem?_getD, List.getD_eq_getElem?_getD, List.getElem?_map, Option.getD_map]

theorem getD_set {α} (l : List α) (k n : Nat) (x d : α) :
    (l.set k x).getD n d = if n = k ∧ k < l.length then x else l.getD n d := by
  simp only [List.getD_eq_getElem?_getD, List.getElem?_set]
  by_cases h : k = n
  · subst h
    by_cases hl : k < l.length
    · simp [hl]
    · simp [hl]
  · have : ¬ (n = k ∧ k < l.length) := fun e => h e.1.symm
    simp [h, this]

theorem hasPrefix_iff (s p : Str) : hasPrefix s p = true ↔ p <+: s := by
  induction p generalizing s with
  | nil => simp [hasPrefix]
  | cons d p ih =>
    cases s with
    | nil => simp [hasPrefix]
    | cons c s => rw [hasPrefix, Bool.and_eq_true, beq_iff_eq, ih, List.cons_prefix_cons, eq_comm]

theorem containsByte_iff (s : Str) (c : UInt8) : containsByte s c = true ↔ c ∈ s := by
  unfold containsByte
  rw [List.any_eq_true]
  constructor
  · rintro ⟨x, hx, he⟩; rw [← (by simpa using he : x = c)]; exact hx
  · intro h; exact ⟨c, h, by simp⟩

theorem lookup_none_iff {α} (l : List (Str × α)) (k : Str) : lookup k l = none ↔ k ∉ l.map (·.1) := by
  induction l with
  | nil => exact ⟨fun _ h => (nomatch h), fun _ => rfl⟩
  | cons x r ih =>
    obtain ⟨k', v'⟩ := x
    rw [lookup, List.map_cons, List.mem_cons, not_or, ← ih]
    split
    · exact ⟨fun e => (nomatch e), fun e => absurd (eq_of_beq ‹_›).symm e.1⟩
    · exact ⟨fun e => ⟨fun (e' : k = k') => ‹¬ _› (by rw [e']; exact beq_self_eq_true k'), e⟩, And.right⟩

theorem lookup_some_of_mem {α} (l : List (Str × α)) (k : Str) (h : k ∈ l.map (·.1)) : ∃ v, lookup k l = some v :=
  Option.ne_none_iff_exists'.mp fun e => (lookup_none_iff l k).mp e h

theorem lookup_of_mem_nodup {α} (l : List (Str × α)) (k : Str) (v : α)
    (hnd : (l.map (·.1)).Nodup) (h : (k, v) ∈ l) : lookup k l = some v := by
  induction l with
  | nil => cases h
  | cons x r ih =>
    obtain ⟨k', v'⟩ := x
    rw [List.map_cons, List.nodup_cons] at hnd
    by_cases hk : k' = k
    · subst hk
      rcases List.mem_cons.mp h with e | h
      · simp only [lookup, beq_self_eq_true, ↓reduceIte, (Prod.mk.inj e).2]
      · exact absurd (List.mem_map.mpr ⟨_, h, rfl⟩) hnd.1
    · simp only [lookup, beq_iff_eq, hk, ↓reduceIte]
      exact ih hnd.2 ((List.mem_cons.mp h).resolve_left fun e => hk (Prod.mk.inj e).1.symm)

theorem lookup_mem {α} (l : List (Str × α)) (k : Str) (v : α) (h : lookup k l = some v) : (k, v) ∈ l := by
  induction l with
  | nil => cases h
  | cons x r ih =>
    obtain ⟨k', v'⟩ := x
    by_cases hk : k' = k
    · simp only [lookup, beq_iff_eq, hk, ↓reduceIte, Option.some.injEq] at h
      rw [hk, h]; exact List.mem_cons_self
    · simp only [lookup, beq_iff_eq, hk, ↓reduceIte] at h
      exact List.mem_cons_of_mem _ (ih h)

theorem lookup_perm {α} (l l' : List (Str × α)) (k : Str) (hp : l.Perm l') (hnd : (l.map (·.1)).Nodup) :
    lookup k l = lookup k l' := by
  have hnd' : (l'.map (·.1)).Nodup := (hp.map _).nodup_iff.mp hnd
  cases h : lookup k l with
  | none =>
    have : k ∉ l'.map (·.1) := by
      rw [← (hp.map (·.1)).mem_iff]; exact (lookup_none_iff l k).mp h
    exact ((lookup_none_iff l' k).mpr this).symm
  | some v =>
    have hm := lookup_mem l k v h
    exact (lookup_of_mem_nodup l' k v hnd' (hp.mem_iff.mp hm)).symm

theorem find?_key_eq_lookup {α} (l : List (Str × α)) (k : Str) :
    l.find? (fun kv => kv.1 == k) = (lookup k l).map fun v => (k, v) := by
  induction l with
  | nil => rfl
  | cons x r ih =>
    obtain ⟨k', v⟩ := x
    rw [List.find?_cons, lookup]
    by_cases hb : (k' == k) = true
    · rw [hb, eq_of_beq hb]; rfl
    · rw [Bool.eq_false_iff.mpr hb, ih]; rfl

theorem length_le_one_of_nodup {α} {l : List α} {a : α} (hnd : l.Nodup) (hall : ∀ x ∈ l, x = a) : l.length ≤ 1 := by
  rw [List.eq_replicate_of_mem hall] at hnd
  exact List.nodup_replicate.mp hnd

theorem eq_singleton_of_nodup {α} {l : List α} {a : α} (hnd : l.Nodup) (hall : ∀ x ∈ l, x = a) (hmem : a ∈ l) :
    l = [a] := by
  have h1 := length_le_one_of_nodup hnd hall
  have h2 := List.length_pos_of_mem hmem
  rw [List.eq_replicate_of_mem hall, show l.length = 1 by omega]; rfl

theorem filter_unique {α} (l : List (Str × α)) (p : Str → Bool) (k' : Str)
    (hnd : (l.map (·.1)).Nodup) (hmem : k' ∈ l.map (·.1)) (hp : p k' = true)
    (huniq : ∀ x ∈ l, p x.1 = true → x.1 = k') :
    (l.filter fun kv => p kv.1).map (·.1) = [k'] := by
  refine eq_singleton_of_nodup (hnd.sublist (List.filter_sublist.map _)) (fun x hx => ?_) ?_
  · obtain ⟨kv, hkv, rfl⟩ := List.mem_map.mp hx
    exact huniq kv (List.mem_filter.mp hkv).1 (List.mem_filter.mp hkv).2
  · obtain ⟨kv, hkv, rfl⟩ := List.mem_map.mp hmem
    exact List.mem_map.mpr ⟨kv, List.mem_filter.mpr ⟨hkv, hp⟩, rfl⟩

theorem lookup_insertKV {α} (k k2 : Str) (v : α) (m : List (Str × α)) :
    lookup k2 (insertKV k v m) = if k = k2 then some v else lookup k2 m := by
  induction m with
  | nil => simp only [insertKV, lookup, beq_iff_eq]
  | cons x r ih =>
    obtain ⟨k', v'⟩ := x
    by_cases h : k' = k
    · subst h; simp only [insertKV, lookup, beq_self_eq_true, ↓reduceIte, beq_iff_eq]
      split <;> rfl
    · simp only [insertKV, lookup, beq_iff_eq, h, ↓reduceIte, ih]
      by_cases h2 : k' = k2
      · rw [if_pos h2, if_neg (h2 ▸ Ne.symm h), if_pos h2]
      · rw [if_neg h2, if_neg h2]

theorem lookup_insertKV_same {α} (k : Str) (v : α) (m : List (Str × α)) : lookup k (insertKV k v m) = some v :=
  (lookup_insertKV k k v m).trans (if_pos rfl)

theorem lookup_insertKV_other {α} (k k2 : Str) (v : α) (m : List (Str × α)) (hne : k ≠ k2) :
    lookup k2 (insertKV k v m) = lookup k2 m :=
  (lookup_insertKV k k2 v m).trans (if_neg hne)

/-- merging a table `l` into `acc`: a key of `l` reads as in `l`, any other key as before -/
theorem lookup_foldl_insertKV {α} (l : List (Str × α)) (acc : List (Str × α)) (k : Str)
    (hnd : (l.map (·.1)).Nodup) :
    lookup k (l.foldl (fun acc kv => insertKV kv.1 kv.2 acc) acc) =
      match lookup k l with
      | some v => some v
      | none => lookup k acc := by
  induction l generalizing acc with
  | nil => rfl
  | cons x r ih =>
    obtain ⟨k1, v1⟩ := x
    rw [List.map_cons, List.nodup_cons] at hnd
    rw [List.foldl_cons, ih _ hnd.2, lookup_insertKV]
    by_cases hk : k1 = k
    · subst hk; simp only [(lookup_none_iff r k1).mpr hnd.1, lookup, beq_self_eq_true, ↓reduceIte]
    · simp only [lookup, beq_iff_eq, hk, ↓reduceIte]

theorem insertKV_keys {α} (k : Str) (v : α) (m : List (Str × α)) :
    (insertKV k v m).map (·.1) = if k ∈ m.map (·.1) then m.map (·.1) else m.map (·.1) ++ [k] := by
  induction m with
  | nil => rfl
  | cons y r ih =>
    obtain ⟨k', v'⟩ := y
    by_cases hk : k' = k
    · subst hk
      simp only [insertKV, beq_self_eq_true, ↓reduceIte, List.map_cons, List.mem_cons, true_or]
    · simp only [insertKV, beq_iff_eq, hk, ↓reduceIte, List.map_cons, ih, List.mem_cons, Ne.symm hk, false_or]
      split <;> rfl

theorem nodup_concat {α} {l : List α} {a : α} (h : l.Nodup) (ha : a ∉ l) : (l ++ [a]).Nodup :=
  (List.perm_append_singleton a l).nodup_iff.mpr (List.nodup_cons.mpr ⟨ha, h⟩)

theorem insertKV_keys_nodup {α} (k : Str) (v : α) (m : List (Str × α)) (h : (m.map (·.1)).Nodup) :
    ((insertKV k v m).map (·.1)).Nodup := by
  rw [insertKV_keys]
  split
  · exact h
  · rename_i hk; exact nodup_concat h hk

theorem foldl_insertKV_nodup {α} (l acc : List (Str × α)) (h : (acc.map (·.1)).Nodup) :
    ((l.foldl (fun acc kv => insertKV kv.1 kv.2 acc) acc).map (·.1)).Nodup := by
  induction l generalizing acc with
  | nil => exact h
  | cons x r ih => exact ih _ (insertKV_keys_nodup x.1 x.2 acc h)

theorem keys_nodup_append {α} (l : List (Str × α)) (k : Str) (v : α) (hnd : (l.map (·.1)).Nodup)
    (hk : lookup k l = none) : ((l ++ [(k, v)]).map (·.1)).Nodup := by
  rw [List.map_append]
  exact nodup_concat hnd ((lookup_none_iff l k).mp hk)

end GoModel
