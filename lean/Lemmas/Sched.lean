import Lemmas.DagBuild
import Lemmas.Dfs
/-! Reading and writing the scheduler state, `markAncestors`, and the scheduler invariant `SInv` (DESIGN.md Appendix B) with
its part about a single vertex, `VOk`.  That every event preserves it is `sinv_step` in `Lemmas/SchedStep.lean`. -/
namespace GoModel.Dag

@[simp] theorem get_set_same (s : Sched) (v : Nat) (x : VState) : (s.set v x).get v = x := by
  simp [Sched.get, Sched.set]

theorem get_set_ne (s : Sched) (v y : Nat) (x : VState) (h : y ≠ v) : (s.set v x).get y = s.get y := by
  simp [Sched.get, Sched.set, h]

theorem get_set (s : Sched) (v y : Nat) (x : VState) : (s.set v x).get y = if y = v then x else s.get y := by
  by_cases h : y = v
  · subst h; simp
  · simp [get_set_ne s v y x h, h]

@[simp] theorem set_errs (s : Sched) (v : Nat) (x : VState) : (s.set v x).errs = s.errs := rfl
@[simp] theorem set_cancelled (s : Sched) (v : Nat) (x : VState) : (s.set v x).cancelled = s.cancelled := rfl
@[simp] theorem set_exited (s : Sched) (v : Nat) (x : VState) : (s.set v x).exited = s.exited := rfl

def anc (c : Cfg) (v : Nat) : List Nat := ancestors c.g (c.g.verts.length + 1) v

def markOne (x : VState) : VState := { x with st := .skip, marked := true }

theorem markList_eq (l : List Nat) (s : Sched) :
    l.foldl (fun s a => s.set a { s.get a with st := .skip, marked := true }) s =
      { s with vs := fun x => if x ∈ l then markOne (s.vs x) else s.vs x } := by
  induction l generalizing s with
  | nil => simp
  | cons a r ih =>
    rw [List.foldl_cons, ih]
    simp only [Sched.set, Sched.get, List.mem_cons]
    congr 1
    funext x
    by_cases hxa : x = a <;> by_cases hxr : x ∈ r <;> simp [hxa, hxr, markOne]

theorem markAncestors_eq (c : Cfg) (s : Sched) (v : Nat) :
    markAncestors c s v = { s with vs := fun x => if x ∈ anc c v then markOne (s.vs x) else s.vs x } :=
  markList_eq _ s

theorem markAncestors_get (c : Cfg) (s : Sched) (v x : Nat) :
    (markAncestors c s v).get x = if x ∈ anc c v then markOne (s.get x) else s.get x := by
  rw [markAncestors_eq]; rfl

theorem markAncestors_errs (c : Cfg) (s : Sched) (v : Nat) : (markAncestors c s v).errs = s.errs := by
  rw [markAncestors_eq]

theorem markAncestors_exited (c : Cfg) (s : Sched) (v : Nat) : (markAncestors c s v).exited = s.exited := by
  rw [markAncestors_eq]

/-- the ancestor computation reaches the direct parents and is closed under taking parents
(true on acyclic graphs: `ancOK_of_dfs`, `Lemmas/Anc.lean`); `sym` is the mirror clause of `GInv` -/
structure AncOK (c : Cfg) : Prop where
  direct : ∀ v p, p ∈ c.g.parents v → p ∈ anc c v
  closed : ∀ v x q, x ∈ anc c v → q ∈ c.g.parents x → q ∈ anc c v
  sym : ∀ a ch, ch ∈ c.g.children a ↔ a ∈ c.g.parents ch

/-- the scheduler invariant; DESIGN.md Appendix B says each clause in words -/
structure SInv (c : Cfg) (s : Sched) : Prop where
  a1 : ∀ v, (s.get v).st = .skip → (s.get v).marked = true
  a2 : ∀ ch p, p ∈ c.g.parents ch → (s.get ch).marked = true → (s.get p).marked = true
  a3 : ∀ ch p, p ∈ c.g.parents ch → (s.get ch).out = some .skipParents → (s.get p).marked = true
  a4 : ∀ v, (s.get v).marked = true → (s.get v).st ≠ .pending ∧ (s.get v).real = false
  b  : ∀ v, (s.get v).real = true → ∀ ch ∈ c.g.children v,
        (s.get ch).st = .done ∧ (s.get ch).out = some .ok ∧ (s.get ch).real = true
  ce : s.errs = [] → ∀ v, (s.get v).out ≠ some .err ∧ (s.get v).out ≠ some .taskSkipped ∧
        Res.taskSkipped ∉ (s.get v).pseudo
  d  : ∀ v, (s.get v).st = .done → (s.get v).out ≠ none
  e  : ∀ v, (s.get v).out = some .ok → (s.get v).real = true ∨ (s.get v).marked = true
  n  : ∀ v, (s.get v).st = .pending →
        (s.get v).real = false ∧ (s.get v).out = none ∧ (s.get v).fl = .none ∧ (s.get v).pseudo = []
  f  : ∀ v, (s.get v).fl ≠ .none → (s.get v).real = true ∧ (s.get v).st = .inProgress
  ps : ∀ v, (s.get v).pseudo ≠ [] → (s.get v).real = false
  po : ∀ v, Res.ok ∈ (s.get v).pseudo → (s.get v).marked = true
  pk : ∀ v r, r ∈ (s.get v).pseudo → r = .ok ∨ r = .taskSkipped
  rs : ∀ v, (s.get v).real = true → (s.get v).st = .inProgress ∨ (s.get v).st = .done
  sk : ∀ v, (s.get v).out = some .skipParents → (s.get v).real = true
  ip : ∀ v, (s.get v).st = .inProgress → (s.get v).fl ≠ .none ∨ (s.get v).pseudo ≠ []

/-- the clauses of `SInv` that speak of one vertex alone -/
structure VOk (x : VState) : Prop where
  a1 : x.st = .skip → x.marked = true
  a4 : x.marked = true → x.st ≠ .pending ∧ x.real = false
  d  : x.st = .done → x.out ≠ none
  e  : x.out = some .ok → x.real = true ∨ x.marked = true
  n  : x.st = .pending → x.real = false ∧ x.out = none ∧ x.fl = .none ∧ x.pseudo = []
  f  : x.fl ≠ .none → x.real = true ∧ x.st = .inProgress
  ps : x.pseudo ≠ [] → x.real = false
  po : Res.ok ∈ x.pseudo → x.marked = true
  pk : ∀ r, r ∈ x.pseudo → r = .ok ∨ r = .taskSkipped
  rs : x.real = true → x.st = .inProgress ∨ x.st = .done
  sk : x.out = some .skipParents → x.real = true
  ip : x.st = .inProgress → x.fl ≠ .none ∨ x.pseudo ≠ []

theorem SInv.vok {c : Cfg} {s : Sched} (h : SInv c s) (v : Nat) : VOk (s.get v) :=
  ⟨h.a1 v, h.a4 v, h.d v, h.e v, h.n v, h.f v, h.ps v, h.po v, h.pk v, h.rs v, h.sk v, h.ip v⟩

/-- the result of a finished vertex while nothing has failed: nil, of a real task or of a marked vertex, or
`ErrorSkipParents` of a real task -/
theorem VOk.done_out {x : VState} (h : VOk x) (hd : x.st = .done)
    (hq : x.out ≠ some .err ∧ x.out ≠ some .taskSkipped) :
    (x.out = some .ok ∧ (x.real = true ∨ x.marked = true)) ∨ (x.out = some .skipParents ∧ x.real = true) := by
  cases ho : x.out with
  | none => exact absurd ho (h.d hd)
  | some r =>
    cases r with
    | ok => exact .inl ⟨rfl, h.e ho⟩
    | skipParents => exact .inr ⟨rfl, h.sk ho⟩
    | err => exact absurd ho hq.1
    | taskSkipped => exact absurd ho hq.2

theorem real_launch_deps_ok (c : Cfg) (hc : AncOK c) (s : Sched) (h : SInv c s) (v : Nat)
    (hr : ready c s v = true) (hp : (s.get v).st = .pending) (he : s.errs = []) :
    ∀ ch ∈ c.g.children v, (s.get ch).st = .done ∧ (s.get ch).out = some .ok ∧ (s.get ch).real = true := by
  intro ch hch
  have hpar : v ∈ c.g.parents ch := (hc.sym v ch).mp hch
  -- `v` is pending, hence not marked; so no child of `v` is marked, skipped, or has sent `ErrorSkipParents`
  have hnm : (s.get v).marked ≠ true := fun hm => (h.a4 v hm).1 hp
  simp only [ready, Bool.and_eq_true, List.all_eq_true, bne_iff_ne, ne_eq] at hr
  have hdone : (s.get ch).st = .done := by
    cases hst : (s.get ch).st with
    | pending => exact absurd hst (hr.2 ch hch).1
    | inProgress => exact absurd hst (hr.2 ch hch).2
    | skip => exact absurd (h.a2 ch v hpar (h.a1 ch hst)) hnm
    | done => rfl
  rcases (h.vok ch).done_out hdone ⟨(h.ce he ch).1, (h.ce he ch).2.1⟩ with ⟨ho, hre | hm⟩ | ⟨ho, _⟩
  · exact ⟨hdone, ho, hre⟩
  · exact absurd (h.a2 ch v hpar hm) hnm
  · exact absurd (h.a3 ch v hpar ho) hnm

theorem allDone_iff {c : Cfg} {s : Sched} : allDone c s = true ↔ ∀ v ∈ c.g.ids, (s.get v).st = .done := by
  simp [allDone]

theorem mayPick_iff {c : Cfg} {s : Sched} :
    mayPick c s = true ↔ (c.serial = true → ∀ a ∈ c.g.ids, (s.get a).st ≠ .inProgress) := by
  cases h : c.serial <;> simp [mayPick, anyInProgress, h]

theorem sinv_init (c : Cfg) : SInv c initSched := by
  constructor <;> simp [initSched, Sched.get]

/-- a really launched vertex has only finished descendants -/
theorem SInv.real_path {c : Cfg} {s : Sched} (h : SInv c s) {v d : Nat} (hv : (s.get v).real = true)
    (hp : Path c.g.children v d) :
    (s.get d).st = .done ∧ (s.get d).out = some .ok ∧ (s.get d).real = true := by
  induction hp with
  | edge e => exact h.b _ hv _ e
  | cons e _ ih => exact ih (h.b _ hv _ e).2.2

end GoModel.Dag
