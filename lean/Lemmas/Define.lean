import Model.Define
/-!
# What the calls of the definition layer do

The functions of `Model/Define.lean` that register something (`addChildOption`, `addChildCommand`, `buildStep` on an
option, a command, the help command) are characterised once: what their success implies and what program they return
(`…_ok`); the recursive ones (`addAliases`, `applyMods`, `defineOpt`, `copyOpts`, `addHelpCmds`, `buildFrom`, and the fold
over the subtree that `HelpCommand` runs, named `markHelp` here) by the elementary changes their result is made of
(`…_induct`).  `buildStep_cases` sorts the thirteen calls into four kinds.
The principles keep of a node only that its tables stay or are emptied: an invariant that reads other node fields has to
case on the call itself.  Those for the option constructors (`hopts`) serve invariants that do not read the option records
— what a call does to the records is `Lemmas/DefFrame.lean` — and `copyOpts_induct` forgets which node is written and whose
table is merged: `Lemmas/Inherit.lean` walks `copyOpts` for that.
-/
namespace GoModel

theorem bind_eq_ok {ε α β} {x : Except ε α} {k : α → Except ε β} {r : β} :
    (x >>= k) = .ok r ↔ ∃ a, x = .ok a ∧ k a = .ok r := by
  cases x <;> simp [bind, Except.bind]

theorem handle_eq_ok {st : BState} {h n : Nat} : handle st h = .ok n ↔ st.handles[h]? = some n := by
  unfold handle
  cases st.handles[h]? <;> simp

/-- `AddChildOption` succeeds only on a key the table does not have yet, and then just appends the entry -/
theorem addChildOption_ok {P P' : Prog} {n oid : Nat} {key : Str} (h : addChildOption P n key oid = .ok P') :
    lookup key (P.node n).opts = none ∧ P' = P.modNode n fun nd => { nd with opts := nd.opts ++ [(key, oid)] } := by
  unfold addChildOption at h
  by_cases h1 : key.isEmpty = true
  · rw [if_pos h1] at h; cases h
  by_cases h2 : (lookup key (P.node n).opts).isSome = true
  · rw [if_neg h1, if_pos h2] at h; cases h
  rw [if_neg h1, if_neg h2] at h
  simp only at h
  split at h
  · cases h
  · cases h; exact ⟨by simpa using h2, rfl⟩

/-- the program after `addChildCommand`: the node appended, its name registered under `p` -/
def attach (P : Prog) (p : Nat) (nd : Node) : Prog :=
  ({ P with nodes := P.nodes ++ [nd] } : Prog).modNode p fun q => { q with cmds := q.cmds ++ [(nd.name, P.nodes.length)] }

/-- `AddChildCommand` succeeds only on a name the parent does not have yet -/
theorem addChildCommand_ok {P P1 : Prog} {p id : Nat} {nd : Node}
    (hr : addChildCommand P p nd = .ok (P1, id)) :
    lookup nd.name (P.node p).cmds = none ∧ P1 = attach P p nd ∧ id = P.nodes.length := by
  unfold addChildCommand at hr
  by_cases h1 : nd.name.isEmpty = true
  · rw [if_pos h1] at hr; cases hr
  by_cases h2 : (lookup nd.name (P.node p).cmds).isSome = true
  · rw [if_neg h1, if_pos h2] at hr; cases hr
  rw [if_neg h1, if_neg h2] at hr
  cases hr
  exact ⟨by simpa using h2, rfl, rfl⟩

/-- the node `NewCommand` creates under `p` -/
def newCmd (P : Prog) (p : Nat) (name desc : Str) : Node :=
  { name := name, description := desc, helpName := (P.node p).helpName, parent := some p,
    mapKeysToLower := (P.node p).mapKeysToLower, umode := (P.node p).umode,
    requireOrder := (P.node p).requireOrder }

/-- `HelpCommand` tells every node of the subtree the name of the help command -/
def markHelp (name : Str) (xs : List Nat) (P : Prog) : Prog :=
  xs.foldl (fun P x => P.modNode x fun nd => { nd with helpName := name }) P

variable {ext : Ext} {env : Env} {st st' : BState}

theorem buildStep_opt_ok {h : Nat} {kind : Kind} {name : Str} {dflt : Val} {dstr : Str} {mn mx : Int}
    {mods : List Mod} (hr : buildStep ext env st (.opt h kind name dflt dstr mn mx mods) = .ok st') :
    ∃ n P', st.handles[h]? = some n ∧ defineOpt ext env st.P n kind name dflt dstr mn mx mods = .ok P' ∧
      st' = { st with P := P' } := by
  obtain ⟨n, hn, hr⟩ := bind_eq_ok.mp hr
  split at hr
  · cases hr
  · obtain ⟨P', hP, hr⟩ := bind_eq_ok.mp hr
    cases hr
    exact ⟨n, P', handle_eq_ok.mp hn, hP, rfl⟩

theorem buildStep_cmd_ok {h : Nat} {name desc : Str} (hr : buildStep ext env st (.cmd h name desc) = .ok st') :
    ∃ p, st.handles[h]? = some p ∧ lookup name (st.P.node p).cmds = none ∧
      st' = { P := copyOpts (attach st.P p (newCmd st.P p name desc)).nodes.length
                     (attach st.P p (newCmd st.P p name desc)) p,
              handles := st.handles ++ [st.P.nodes.length] } := by
  obtain ⟨p, hp, hr⟩ := bind_eq_ok.mp hr
  obtain ⟨⟨P1, id⟩, hv, hr⟩ := bind_eq_ok.mp hr
  cases hr
  obtain ⟨hfree, rfl, rfl⟩ := addChildCommand_ok hv
  exact ⟨p, handle_eq_ok.mp hp, hfree, rfl⟩

theorem buildStep_help_ok {h : Nat} {name : Str} {mods : List Mod}
    (hr : buildStep ext env st (.help h name mods) = .ok st') :
    ∃ n P1 P3, st.handles[h]? = some n ∧ defineOpt ext env st.P n .bool name (.b false) [] 0 0 mods = .ok P1 ∧
      addHelpCmds name (subtree P1.nodes.length (markHelp name (subtree P1.nodes.length P1 n) P1) n)
        (markHelp name (subtree P1.nodes.length P1 n) P1) = .ok P3 ∧
      st' = { st with P := copyOpts P3.nodes.length P3 n } := by
  obtain ⟨n, hn, hr⟩ := bind_eq_ok.mp hr
  obtain ⟨P1, hP1, hr⟩ := bind_eq_ok.mp hr
  obtain ⟨P3, hP3, hr⟩ := bind_eq_ok.mp hr
  cases hr
  exact ⟨n, P1, P3, handle_eq_ok.mp hn, hP1, hP3, rfl⟩

/-- **What one definition call does.**  Ten of the thirteen calls rewrite fields of one node other than its
command table (and leave its option table alone or empty it); the other three are an option constructor,
`NewCommand` and `HelpCommand`. -/
theorem buildStep_cases {motive : BState → Prop} {op : DefOp} (hr : buildStep ext env st op = .ok st')
    (node : ∀ (h n : Nat) (f : Node → Node), st.handles[h]? = some n → (∀ x, (f x).cmds = x.cmds) →
      (∀ x, (f x).opts = x.opts ∨ (f x).opts = []) → motive { st with P := st.P.modNode n f })
    (opt : ∀ (h n : Nat) kind name dflt dstr mn mx mods P', st.handles[h]? = some n →
      defineOpt ext env st.P n kind name dflt dstr mn mx mods = .ok P' → motive { st with P := P' })
    (cmd : ∀ (h p : Nat) name desc, st.handles[h]? = some p → lookup name (st.P.node p).cmds = none →
      motive { P := copyOpts (attach st.P p (newCmd st.P p name desc)).nodes.length
                      (attach st.P p (newCmd st.P p name desc)) p,
               handles := st.handles ++ [st.P.nodes.length] })
    (help : ∀ (h n : Nat) name mods P1 P3, st.handles[h]? = some n →
      defineOpt ext env st.P n .bool name (.b false) [] 0 0 mods = .ok P1 →
      addHelpCmds name (subtree P1.nodes.length (markHelp name (subtree P1.nodes.length P1 n) P1) n)
        (markHelp name (subtree P1.nodes.length P1 n) P1) = .ok P3 →
      motive { st with P := copyOpts P3.nodes.length P3 n }) : motive st' := by
  cases op with
  | opt h kind name dflt dstr mn mx mods =>
    obtain ⟨n, P', hn, hP, rfl⟩ := buildStep_opt_ok hr
    exact opt h n kind name dflt dstr mn mx mods P' hn hP
  | cmd h name desc =>
    obtain ⟨p, hp, hfree, rfl⟩ := buildStep_cmd_ok hr
    exact cmd h p name desc hp hfree
  | help h name mods =>
    obtain ⟨n, P1, P3, hn, hP1, hP3, rfl⟩ := buildStep_help_ok hr
    exact help h n name mods P1 P3 hn hP1 hP3
  | unset h =>
    obtain ⟨n, hn, hr⟩ := bind_eq_ok.mp hr
    cases hr
    exact node h n _ (handle_eq_ok.mp hn) (fun _ => rfl) (fun _ => .inr rfl)
  | _ =>
    obtain ⟨n, hn, hr⟩ := bind_eq_ok.mp hr
    cases hr
    exact node _ n _ (handle_eq_ok.mp hn) (fun _ => rfl) (fun _ => .inl rfl)

theorem buildFrom_induct {I : BState → Prop}
    (step : ∀ (s s' : BState) (op : DefOp), buildStep ext env s op = .ok s' → I s → I s')
    (ops : List DefOp) {st st' : BState} (hr : buildFrom ext env st ops = .ok st') (h : I st) : I st' := by
  induction ops generalizing st with
  | nil => cases hr; exact h
  | cons op r ih =>
    obtain ⟨s1, h1, hr⟩ := bind_eq_ok.mp hr
    exact ih hr (step st s1 op h1 h)

/-- the record a fresh option starts from, before its modifiers -/
def freshOpt (kind : Kind) (name : Str) (dflt : Val) (dstr : Str) (min max : Int) : Opt :=
  { name := name, aliases := [name], kind := kind,
    min := if kind.isRepeat then min else kind.table.2.1,
    max := if kind.isRepeat then max else kind.table.2.2,
    helpArgName := kind.table.1,
    defaultStr := defaultStrOf kind dflt dstr,
    boolDefault := (match dflt with | .b v => v | _ => false),
    value := dflt }

theorem defineOpt_eq (P : Prog) (n : Nat) (kind : Kind) (name : Str) (dflt : Val) (dstr : Str) (mn mx : Int)
    (mods : List Mod) :
    defineOpt ext env P n kind name dflt dstr mn mx mods =
      addChildOption { P with opts := P.opts ++ [freshOpt kind name dflt dstr mn mx] } n name P.opts.length >>=
        fun P2 => applyMods ext env P2 n P.opts.length mods := by
  cases dflt <;> rfl

section
variable {I : Prog → Prop} {n : Nat}
  (hopts : ∀ (Q : Prog) (os : List Opt), I Q → I { Q with opts := os })
  (hkey : ∀ (Q : Prog) (key : Str) (oid : Nat), lookup key (Q.node n).opts = none → I Q →
    I (Q.modNode n fun nd => { nd with opts := nd.opts ++ [(key, oid)] }))
include hkey

theorem addAliases_induct (names : List Str) {P P' : Prog} {oid : Nat}
    (h : addAliases P n oid names = .ok P') (i : I P) : I P' := by
  induction names generalizing P with
  | nil => cases h; exact i
  | cons a r ih =>
    obtain ⟨P1, h1, h⟩ := bind_eq_ok.mp h
    obtain ⟨hfree, rfl⟩ := addChildOption_ok h1
    exact ih h (hkey P a oid hfree i)

include hopts

theorem applyMods_induct (ms : List Mod) {P P' : Prog} {oid : Nat}
    (h : applyMods ext env P n oid ms = .ok P') (i : I P) : I P' := by
  induction ms generalizing P with
  | nil => cases h; exact i
  | cons m r ih =>
    obtain ⟨P1, h1, h⟩ := bind_eq_ok.mp h
    refine ih h ?_
    cases m with
    | alias names => exact addAliases_induct hkey names h1 (hopts P _ i)
    | _ => cases h1; exact hopts P _ i

/-- an option constructor only rewrites the record list and registers fresh keys in the table of `n` -/
theorem defineOpt_induct {P P' : Prog} {kind : Kind} {name : Str} {dflt : Val} {dstr : Str} {mn mx : Int}
    {mods : List Mod} (h : defineOpt ext env P n kind name dflt dstr mn mx mods = .ok P') (i : I P) : I P' := by
  rw [defineOpt_eq] at h
  obtain ⟨P2, h2, h⟩ := bind_eq_ok.mp h
  obtain ⟨hfree, rfl⟩ := addChildOption_ok h2
  exact applyMods_induct hopts hkey mods h (hkey _ name _ hfree (hopts P _ i))

end

/-- one iteration of the first loop of `copyOptionsFromParent` -/
def copyStepFn (pn : Node) (A : Prog) (c : Nat) : Prog :=
  let cn := A.node c
  if cn.name == pn.helpName || cn.skipCopy then A
  else A.setNode c { cn with opts := pn.opts.foldl (fun acc kv => insertKV kv.1 kv.2 acc) cn.opts }

theorem copyOpts_succ (fuel : Nat) (P : Prog) (parent : Nat) :
    copyOpts (fuel + 1) P parent =
      ((P.node parent).cmds.map (·.2)).foldl (fun A c => copyOpts fuel A c)
        (((P.node parent).cmds.map (·.2)).foldl (copyStepFn (P.node parent)) P) := rfl

/-- the first loop merges the parent's table into the tables of some of the children -/
theorem copyStep_fold_induct {I : Prog → Prop} (pn : Node) (ks : List Nat)
    (merge : ∀ (Q : Prog) (c : Nat), c ∈ ks → I Q →
      I (Q.setNode c { Q.node c with opts := pn.opts.foldl (fun acc kv => insertKV kv.1 kv.2 acc) (Q.node c).opts }))
    (Q : Prog) (h : I Q) : I (ks.foldl (copyStepFn pn) Q) := by
  induction ks generalizing Q with
  | nil => exact h
  | cons k ks ih =>
    refine ih (fun Q c hc => merge Q c (List.mem_cons_of_mem k hc)) _ ?_
    unfold copyStepFn
    simp only
    split
    · exact h
    · exact merge Q k List.mem_cons_self h

/-- the only thing `copyOptionsFromParent` does: it merges a table into the option table of some node -/
theorem copyOpts_induct {I : Prog → Prop}
    (merge : ∀ (Q : Prog) (c : Nat) (l : List (Str × Nat)), I Q →
      I (Q.setNode c { Q.node c with opts := l.foldl (fun acc kv => insertKV kv.1 kv.2 acc) (Q.node c).opts }))
    (fuel : Nat) (P : Prog) (a : Nat) (h : I P) : I (copyOpts fuel P a) := by
  induction fuel generalizing P a with
  | zero => exact h
  | succ fuel ih =>
    rw [copyOpts_succ]
    have loop2 : ∀ (ks : List Nat) (Q : Prog), I Q → I (ks.foldl (fun A c => copyOpts fuel A c) Q) := by
      intro ks
      induction ks with
      | nil => exact fun _ hQ => hQ
      | cons k ks ihk => exact fun Q hQ => ihk _ (ih Q k hQ)
    exact loop2 _ _ (copyStep_fold_induct _ _ (fun Q c _ => merge Q c _) P h)

theorem markHelp_induct {I : Prog → Prop} (name : Str)
    (step : ∀ (Q : Prog) (x : Nat), I Q → I (Q.modNode x fun nd => { nd with helpName := name }))
    (xs : List Nat) (P : Prog) (h : I P) : I (markHelp name xs P) := by
  induction xs generalizing P with
  | nil => exact h
  | cons x r ih => exact ih _ (step P x h)

/-- `HelpCommand` attaches a leaf without options to some of the listed nodes, under a name they do not have
(`n ∈ ns` is carried so that the caller can bound `n`) -/
theorem addHelpCmds_induct {I : Prog → Prop} {name : Str} {ns : List Nat}
    (step : ∀ (Q : Prog) (n : Nat) (nd : Node), n ∈ ns → nd.cmds = [] → nd.opts = [] →
      lookup nd.name (Q.node n).cmds = none → I Q → I (attach Q n nd))
    {P P' : Prog} (hr : addHelpCmds name ns P = .ok P') (h : I P) : I P' := by
  induction ns generalizing P with
  | nil => cases hr; exact h
  | cons n r ih =>
    have step' := fun Q m nd hm => step Q m nd (List.mem_cons_of_mem n hm)
    unfold addHelpCmds at hr
    simp only at hr
    split at hr
    · exact ih step' hr h
    · obtain ⟨⟨P1, id⟩, hv, hr⟩ := bind_eq_ok.mp hr
      obtain ⟨hfree, rfl, -⟩ := addChildCommand_ok hv
      exact ih step' hr (step P n _ List.mem_cons_self rfl rfl hfree h)

theorem buildFrom_append {a c : List DefOp} {s s' : BState} (h : buildFrom ext env s (a ++ c) = .ok s') :
    ∃ m, buildFrom ext env s a = .ok m ∧ buildFrom ext env m c = .ok s' := by
  induction a generalizing s with
  | nil => exact ⟨s, rfl, h⟩
  | cons op r ih =>
    obtain ⟨s1, h1, h⟩ := bind_eq_ok.mp h
    obtain ⟨m, hm1, hm2⟩ := ih h
    exact ⟨m, bind_eq_ok.mpr ⟨s1, h1, hm1⟩, hm2⟩

end GoModel
