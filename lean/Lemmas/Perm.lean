import Lemmas.Parse
/-! Iteration-order independence of table reads (a Go map is an association list with distinct keys
whose order stands for the iteration order). -/
namespace GoModel

/-- the candidates of an abbreviation are the same set whatever the iteration order -/
theorem resolve_perm (nd nd' : Node) (k : Str) (hp : nd.opts.Perm nd'.opts) (hnd : (nd.opts.map (·.1)).Nodup) :
    (resolve nd k).Perm (resolve nd' k) := by
  unfold resolve
  rw [← lookup_perm nd.opts nd'.opts k hp hnd]
  cases lookup k nd.opts with
  | some _ => exact List.Perm.refl _
  | none => exact (hp.filter _).map _

/-- `n'` is `n` with its two tables iterated in another order -/
structure NodePerm (n n' : Node) : Prop where
  opts : n.opts.Perm n'.opts
  cmds : n.cmds.Perm n'.cmds
  ndO : (n.opts.map (·.1)).Nodup
  ndC : (n.cmds.map (·.1)).Nodup
  rest : ({ n with opts := [], cmds := [] } : Node) = { n' with opts := [], cmds := [] }

def NPerm (P : Prog) (N' : List Node) : Prop := ∀ i, NodePerm (P.node i) (N'.getD i dummyNode)

end GoModel
