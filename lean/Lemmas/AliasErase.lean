import Lemmas.StepRel
import Lemmas.SaveVal
/-!
# `CalledAs` is write-only: the spelling an option was given by influences nothing but `CalledAs` and the
alias quoted in error messages

`AEq s s'`: the two parse states agree on everything except the `usedAlias` field of the option records and the
alias quoted inside a pending error.  Outside completion mode every function of the argument loop maps `AEq` states
to `AEq` states (`aeq_stepRel`).
-/
namespace GoModel

def Opt.noAlias (o : Opt) : Opt := { o with usedAlias := [] }

theorem Opt.eq_of_noAlias {a c : Opt} (h : a.noAlias = c.noAlias) : c = { a with usedAlias := c.usedAlias } := by
  cases a; cases c; cases h; rfl

/-- what the loop reads of a record, apart from the alias -/
theorem Opt.reads_of_noAlias {a c : Opt} (h : a.noAlias = c.noAlias) :
    a.min = c.min ∧ a.max = c.max ∧ a.kind = c.kind := by
  rw [Opt.eq_of_noAlias h]; exact ⟨rfl, rfl, rfl⟩

theorem Opt.noAlias_with (a : Opt) (u : Str) : ({ a with usedAlias := u } : Opt).noAlias = a.noAlias := rfl

/-- results of `Save` on two records that differ in the alias only -/
def SaveRel : Except PErr Opt → Except PErr Opt → Prop
  | .ok a, .ok c => a.noAlias = c.noAlias
  | .error e, .error e' => e.noAlias = e'.noAlias
  | _, _ => False

theorem save_rel (ext : Ext) (lower : Bool) (a : Opt) (u : Str) (args : List Str) :
    SaveRel (save ext lower a args) (save ext lower { a with usedAlias := u } args) := by
  rw [save_eq, save_eq]
  have h := saveVal_rel ext lower a u args
  generalize saveVal ext lower a args = x at h
  generalize saveVal ext lower { a with usedAlias := u } args = y at h
  cases x <;> cases y <;> simp only [ErrRel] at h
  · exact h
  · subst h; rfl

structure AEq (s s' : PState) : Prop where
  nodes : s.P.nodes = s'.P.nodes
  opts : s.P.opts.map Opt.noAlias = s'.P.opts.map Opt.noAlias
  cur : s.cur = s'.cur
  ctx : s.ctx = s'.ctx
  pending : s.pending = s'.pending
  tok : s.tok = s'.tok
  passed : s.passed = s'.passed
  lastTok : s.lastTok = s'.lastTok
  err : s.err.map PErr.noAlias = s'.err.map PErr.noAlias
  comps : s.comps = s'.comps
  rem : s.rem = s'.rem
  unk : s.unk = s'.unk
  textStart : s.textStart = s'.textStart

theorem AEq.refl (s : PState) : AEq s s := ⟨rfl, rfl, rfl, rfl, rfl, rfl, rfl, rfl, rfl, rfl, rfl, rfl, rfl⟩

theorem AEq.symm {s s' : PState} (h : AEq s s') : AEq s' s :=
  ⟨h.nodes.symm, h.opts.symm, h.cur.symm, h.ctx.symm, h.pending.symm, h.tok.symm, h.passed.symm, h.lastTok.symm,
   h.err.symm, h.comps.symm, h.rem.symm, h.unk.symm, h.textStart.symm⟩

theorem AEq.trans {a c d : PState} (h : AEq a c) (g : AEq c d) : AEq a d :=
  ⟨h.nodes.trans g.nodes, h.opts.trans g.opts, h.cur.trans g.cur, h.ctx.trans g.ctx, h.pending.trans g.pending,
   h.tok.trans g.tok, h.passed.trans g.passed, h.lastTok.trans g.lastTok, h.err.trans g.err, h.comps.trans g.comps,
   h.rem.trans g.rem, h.unk.trans g.unk, h.textStart.trans g.textStart⟩

theorem AEq.node {s s' : PState} (h : AEq s s') (n : Nat) : s.P.node n = s'.P.node n := by
  unfold Prog.node; rw [h.nodes]

theorem AEq.opt {s s' : PState} (h : AEq s s') (o : Nat) : (s.P.opt o).noAlias = (s'.P.opt o).noAlias := by
  have := congrArg (fun l => l.getD o dummyOpt.noAlias) h.opts
  rwa [getD_map, getD_map] at this

theorem AEq.errSome {s s' : PState} (h : AEq s s') : s.err.isSome = s'.err.isSome := by
  have := congrArg Option.isSome h.err
  simpa using this

theorem map_set_rel (l l' : List Opt) (o : Nat) (x x' : Opt) (hl : l.map Opt.noAlias = l'.map Opt.noAlias)
    (hx : x.noAlias = x'.noAlias) : (l.set o x).map Opt.noAlias = (l'.set o x').map Opt.noAlias := by
  rw [List.map_set, List.map_set, hl, hx]

theorem procPair_aeq (ext : Ext) (s s' : PState) (p : Pair) (h : AEq s s') :
    AEq (procPair ext s p) (procPair ext s' p) := by
  have hnd : s'.P.node s'.cur = s.P.node s.cur := by rw [← h.cur]; exact (h.node _).symm
  have h0 : s'.P.node 0 = s.P.node 0 := (h.node 0).symm
  have hm : ∀ oid key, matched s' oid key = matched s oid key := fun oid key => by
    unfold matched; rw [h0, Opt.eq_of_noAlias (h.opt oid)]
  -- the outcome of the left run, with the conditions under which the right run has the same
  have hsp := procPair_spec ext s p
  generalize procPair ext s p = r at hsp ⊢
  cases hsp with
  | roStop hr hro =>
    rw [(ProcPair.roStop (ext := ext) (s := s') (p := p) (by rw [hnd]; exact hr) (by rw [hnd]; exact hro)).eq]
    exact { h with rem := by simp [PState.addText, h.rem, h.tok], ctx := rfl, pending := rfl }
  | unknownKept hr hro hp =>
    rw [(ProcPair.unknownKept (ext := ext) (s := s') (p := p) (by rw [hnd]; exact hr) (by rw [hnd]; exact hro)
      (by rw [hnd, ← h.passed]; exact hp)).eq, hnd]
    exact { h with unk := by rw [h.unk], rem := by rw [h.rem, h.tok], passed := rfl }
  | unknown hr hro hp =>
    rw [(ProcPair.unknown (ext := ext) (s := s') (p := p) (by rw [hnd]; exact hr) (by rw [hnd]; exact hro)
      (by rw [hnd, ← h.passed]; exact hp)).eq, hnd]
    exact { h with unk := by rw [h.unk] }
  | saveErr key oid e hr hl hs =>
    rw [(ProcPair.saveErr (s := s') (p := p) key oid e (by rw [hnd]; exact hr) (by rw [hnd]; exact hl)
      (by rw [h0, hm]; exact hs)).eq, hm]
    exact { h with opts := map_set_rel _ _ _ _ _ h.opts rfl, err := rfl }
  | saved key oid o' hr hl hs =>
    rw [(ProcPair.saved (s := s') (p := p) key oid o' (by rw [hnd]; exact hr) (by rw [hnd]; exact hl)
      (by rw [h0, hm]; exact hs)).eq]
    exact { h with opts := map_set_rel _ _ _ _ _ h.opts rfl, ctx := by rw [h.ctx] }
  | ambiguous k1 k2 ks hr =>
    rw [(ProcPair.ambiguous (ext := ext) (s := s') (p := p) k1 k2 ks (by rw [hnd]; exact hr)).eq]
    exact { h with err := by rw [h.lastTok] }

theorem saveTok_aeq (ext : Ext) {s s' : PState} (o i : Nat) (t : Str) (h : AEq s s') :
    AEq (saveTok ext s o i t) (saveTok ext s' o i t) := by
  have e := Opt.eq_of_noAlias (h.opt o)
  have hsr := save_rel ext (s.P.node 0).mapKeysToLower (s.P.opt o) (s'.P.opt o).usedAlias [t]
  rw [← e] at hsr
  unfold saveTok
  rw [← h.node 0]
  generalize save ext (s.P.node 0).mapKeysToLower (s.P.opt o) [t] = r1 at hsr ⊢
  generalize save ext (s.P.node 0).mapKeysToLower (s'.P.opt o) [t] = r2 at hsr ⊢
  cases r1 <;> cases r2 <;> simp only [SaveRel] at hsr
  · exact { h with err := by simp [hsr], lastTok := rfl }
  · rename_i o1 o2
    have hm : o1.max = o2.max := (Opt.reads_of_noAlias hsr).2.1
    exact { h with opts := map_set_rel _ _ _ _ _ h.opts hsr, lastTok := rfl, ctx := by simp only [hm] }

theorem aeq_stepRel (ext : Ext) : StepRel ext none AEq False where
  err h := h.errSome.symm
  ctx h := h.ctx.symm
  pending h := h.pending.symm
  bounds o h := ⟨(Opt.reads_of_noAlias (h.opt o)).1.symm, (Opt.reads_of_noAlias (h.opt o)).2.2.symm⟩
  setPending _ h := { h with pending := rfl }
  setIdle h := { h with ctx := rfl }
  addText t h := { h with rem := congrArg (· ++ [t]) h.rem }
  headState _ h := { h with tok := rfl, lastTok := rfl, passed := rfl }
  missingArg _ h := { h with err := rfl }
  dashArg _ h := { h with err := rfl }
  saveTok o i t h := saveTok_aeq ext o i t h
  procPair p h := .inr (procPair_aeq ext _ _ p h)
  headOther {s s'} t h := by
    have hnd : s'.P.node s'.cur = s.P.node s.cur := by rw [← h.cur]; exact (h.node _).symm
    refine .inr (ite_rel (Q := AEq) (fun _ => { h with ctx := rfl }) fun _ => ?_)
    rw [hnd]
    cases lookup t (s.P.node s.cur).cmds with
    | some c => exact { h with cur := rfl, textStart := congrArg List.length h.rem }
    | none =>
      exact ite_rel (Q := AEq) (fun _ => { h with rem := congrArg (· ++ [t]) h.rem, ctx := rfl })
        fun _ => { h with rem := congrArg (· ++ [t]) h.rem }

end GoModel
