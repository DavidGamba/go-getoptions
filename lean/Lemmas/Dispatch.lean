import Lemmas.Parse
/-! Every function of the argument loop is a dispatch on the error flag and the context (`byCtx`) around a handful of
state changes: `procPair`, what `offer` does, the non-option branches of `head` (`headOther`), the end-of-input check
(`missingArg`), and the loop's own bookkeeping.  The equations below say so function by function; a proof about the
loop then goes branch by branch (`byCtx_ind`, and `byCtx_rel` for two runs) without unfolding the functions again.
At the end: what one `step` does in the situations the property files meet (`step_head_option`, `step_single_ok`,
`step_word`, `step_collecting`, …). -/
namespace GoModel

/-- `head` on a token that is not split into option pairs -/
def headOther (ext : Ext) (comp : Option Str) (s : PState) (t : Str) : PState :=
  match comp with
  | some target =>
    { s with comps := some (completionsAt ext target s.P (s.P.node s.cur) (s.rem.drop s.textStart) t), ctx := .done }
  | none =>
    if t == dashdash then { s with ctx := .stopped }
    else match lookup t (s.P.node s.cur).cmds with
      | some c => { s with cur := c, textStart := s.rem.length }
      | none => if (s.P.node s.cur).requireOrder then { s.addText t with ctx := .stopped } else s.addText t

theorem head_eq (ext : Ext) (mode : Mode) (comp : Option Str) (s : PState) (t : Str) :
    head ext mode comp s t =
      if comp = none ∧ (t == dashdash) = false ∧ (isOption t mode).2 = true
      then drain ext (headState s t) (isOption t mode).1 else headOther ext comp s t := by
  cases comp with
  | some target => exact (if_neg fun h => nomatch h.1).symm
  | none =>
    unfold head headOther
    cases hd : t == dashdash with
    | true => exact (if_neg fun h => nomatch h.2.1).symm
    | false =>
      rcases hopt : isOption t mode with ⟨pairs, _ | _⟩
      · exact (if_neg fun h => nomatch h.2.2).symm
      · exact (if_pos ⟨rfl, rfl, rfl⟩).symm

/-- the end-of-input check fails: an occurrence that is still open lacks a mandatory argument -/
def missingArg (s : PState) (o : Nat) : PState := { s with err := some (.missingArg (s.P.opt o).usedAlias) }

/-- dispatch on the error flag and the context; the branches come in the order error, idle, collecting, stopped, done
here and in `byCtx_ind`, `byCtx_rel` -/
def byCtx (s : PState) (e i : PState) (c : Nat → Nat → PState) (st d : PState) : PState :=
  if s.err.isSome then e else match s.ctx with
    | .idle => i | .collecting o k => c o k | .stopped => st | .done => d

theorem byCtx_stopped {s : PState} (h : s.ctx = .stopped) (e i : PState) (c : Nat → Nat → PState) (st d : PState) :
    byCtx s e i c st d = if s.err.isSome then e else st := by
  simp only [byCtx, h]

theorem byCtx_idle {s : PState} (he : s.err = none) (hc : s.ctx = .idle) (e i : PState) (c : Nat → Nat → PState)
    (st d : PState) : byCtx s e i c st d = i := by
  rw [byCtx, he, hc]; rfl

theorem byCtx_collecting {s : PState} {o k : Nat} (he : s.err = none) (hc : s.ctx = .collecting o k) (e i : PState)
    (c : Nat → Nat → PState) (st d : PState) : byCtx s e i c st d = c o k := by
  rw [byCtx, he, hc]; rfl

theorem byCtx_ind {Q : PState → Prop} {s e i : PState} {c : Nat → Nat → PState} {st d : PState}
    (qe : s.err ≠ none → Q e) (qi : s.err = none → s.ctx = .idle → Q i)
    (qc : ∀ o k, s.err = none → s.ctx = .collecting o k → Q (c o k))
    (qs : s.err = none → s.ctx = .stopped → Q st) (qd : s.err = none → s.ctx = .done → Q d) :
    Q (byCtx s e i c st d) := by
  unfold byCtx
  split
  · exact qe (Option.isSome_iff_ne_none.mp ‹_›)
  · have he : s.err = none := Option.not_isSome_iff_eq_none.mp ‹_›
    split
    · exact qi he ‹_›
    · exact qc _ _ he ‹_›
    · exact qs he ‹_›
    · exact qd he ‹_›

theorem ite_rel {α β} {Q : α → β → Prop} {c : Prop} [Decidable c] {a b : α} {a' b' : β}
    (ha : c → Q a a') (hb : ¬ c → Q b b') : Q (if c then a else b) (if c then a' else b') := by
  split
  · exact ha ‹_›
  · exact hb ‹_›

theorem byCtx_rel {Q : PState → PState → Prop} {s s' e e' i i' : PState} {c c' : Nat → Nat → PState}
    {st st' d d' : PState} (he : s'.err.isSome = s.err.isSome) (hc : s'.ctx = s.ctx)
    (qe : s.err.isSome = true → Q e e') (qi : s.ctx = .idle → Q i i')
    (qc : ∀ o k, s.ctx = .collecting o k → Q (c o k) (c' o k))
    (qs : s.ctx = .stopped → Q st st') (qd : s.ctx = .done → Q d d') :
    Q (byCtx s e i c st d) (byCtx s' e' i' c' st' d') := by
  unfold byCtx
  rw [he, hc]
  split
  · exact qe ‹_›
  · split
    · exact qi ‹_›
    · exact qc _ _ ‹_›
    · exact qs ‹_›
    · exact qd ‹_›

variable (ext : Ext) (mode : Mode)

theorem drain_cons (s : PState) (p : Pair) (ps : List Pair) :
    drain ext s (p :: ps) =
      byCtx (procPair ext { s with pending := ps } p) (procPair ext { s with pending := ps } p)
        (drain ext (procPair ext { s with pending := ps } p) ps)
        (fun _ _ => { procPair ext { s with pending := ps } p with pending := ps })
        { procPair ext { s with pending := ps } p with pending := [] }
        { procPair ext { s with pending := ps } p with pending := [] } := by
  rw [drain, byCtx]
  generalize procPair ext { s with pending := ps } p = s1
  -- both sides compute once the context (`c`, the third field of `PState`) is a constructor; so below
  cases s1 with | mk _ _ c => cases c <;> rfl

theorem afterConsume_eq (s : PState) (ps : List Pair) :
    afterConsume ext s ps = byCtx s s (drain ext s ps) (fun _ _ => { s with pending := ps })
      { s with pending := ps } { s with pending := ps } := by
  rw [afterConsume, byCtx]
  cases s with | mk _ _ c => cases c <;> rfl

theorem feedPending_cons (comp : Option Str) (t : Str) (s : PState) (p : Pair) (ps : List Pair) :
    feedPending ext mode comp t s (p :: ps) =
      byCtx (procPair ext { s with pending := ps } p) (procPair ext { s with pending := ps } p)
        (feedPending ext mode comp t (procPair ext { s with pending := ps } p) ps)
        (fun o i => match offer ext mode (procPair ext { s with pending := ps } p) o i t with
          | (s2, true) => afterConsume ext s2 ps
          | (s2, false) => feedPending ext mode comp t s2 ps)
        { (procPair ext { s with pending := ps } p).addText t with pending := [] }
        { (procPair ext { s with pending := ps } p).addText t with pending := [] } := by
  rw [feedPending, byCtx]
  generalize procPair ext { s with pending := ps } p = s1
  cases s1 with | mk _ _ c => cases c <;> rfl

theorem stepG_eq (comp : Option Str) (s : PState) (t : Str) :
    stepG ext mode comp s t = byCtx s s (head ext mode comp s t)
      (fun o i => match offer ext mode s o i t with
        | (s1, true) => afterConsume ext s1 s1.pending
        | (s1, false) => feedPending ext mode comp t s1 s1.pending)
      (s.addText t) s := by
  rw [stepG, byCtx]
  cases s with | mk _ _ c => cases c <;> rfl

theorem step_head_other (s : PState) (t : Str) (he : s.err = none) (hc : s.ctx = .idle)
    (hno : (isOption t mode).2 = false) : step ext mode s t = headOther ext none s t := by
  unfold step
  rw [stepG_eq, byCtx_idle he hc, head_eq, if_neg fun h => by rw [hno] at h; exact Bool.false_ne_true h.2.2]

theorem finishDrain_cons (s : PState) (p : Pair) (ps : List Pair) :
    finishDrain ext s (p :: ps) =
      byCtx (procPair ext { s with pending := ps } p) (procPair ext { s with pending := ps } p)
        (finishDrain ext (procPair ext { s with pending := ps } p) ps)
        (fun o i => if (i : Int) < ((procPair ext { s with pending := ps } p).P.opt o).min
          then missingArg (procPair ext { s with pending := ps } p) o
          else finishDrain ext { procPair ext { s with pending := ps } p with ctx := .idle } ps)
        { procPair ext { s with pending := ps } p with pending := [] }
        { procPair ext { s with pending := ps } p with pending := [] } := by
  rw [finishDrain, byCtx]
  generalize procPair ext { s with pending := ps } p = s1
  cases s1 with | mk _ _ c => cases c <;> rfl

theorem finish_eq (s : PState) :
    finish ext s = byCtx s s s
      (fun o i => if (i : Int) < (s.P.opt o).min then missingArg s o
        else finishDrain ext { s with ctx := .idle } s.pending) s s := by
  rw [finish, byCtx]
  cases s with | mk _ _ c => cases c <;> rfl

theorem afterConsume_nil (s : PState) (hp : s.pending = []) : afterConsume ext s [] = s := by
  have e : ({ s with pending := [] } : PState) = s := by rw [← hp]
  rw [afterConsume_eq]
  exact byCtx_ind (Q := fun r => r = s) (fun _ => rfl) (fun _ _ => e) (fun _ _ _ _ => e) (fun _ _ => e) (fun _ _ => e)

theorem feedPending_idle (comp : Option Str) (t : Str) (s : PState) (he : s.err = none) (hc : s.ctx = .idle)
    (hp : s.pending = []) : feedPending ext mode comp t s s.pending = stepG ext mode comp s t := by
  have e : ({ s with pending := [] } : PState) = s := by rw [← hp]
  rw [stepG_eq, byCtx_idle he hc, hp, feedPending, e]

/-- the open occurrence takes the token (or fails on it), or it is closed and the token is read from the idle state -/
theorem step_collecting (s : PState) (o i : Nat) (t : Str) (he : s.err = none) (hc : s.ctx = .collecting o i)
    (hp : s.pending = []) :
    step ext mode s t = match offer ext mode s o i t with
      | (s1, true) => s1
      | (_, false) => step ext mode { s with ctx := .idle } t := by
  have hp1 := offer_pending ext mode s o i t
  unfold step
  rw [stepG_eq, byCtx_collecting he hc]
  rcases offer_cases ext mode s o i t with e | e <;> rw [e] at hp1 ⊢
  · show afterConsume ext _ _ = _
    rw [hp1, hp, afterConsume_nil ext _ (hp1.trans hp)]
  · exact feedPending_idle ext mode none t { s with ctx := .idle } he rfl hp

theorem drain_single (s : PState) (p : Pair) : drain ext s [p] = procPair ext { s with pending := [] } p := by
  have hp : (procPair ext { s with pending := [] } p).pending = [] := (procPair_pending ext _ p).elim id id
  have e : ∀ x : PState, x.pending = [] → ({ x with pending := [] } : PState) = x := fun x hx => by rw [← hx]
  rw [drain_cons]
  exact byCtx_ind (Q := fun r => r = _) (fun _ => rfl) (fun _ _ => e _ hp) (fun _ _ _ _ => e _ hp) (fun _ _ => e _ hp)
    (fun _ _ => e _ hp)

theorem drain_single_pending (s : PState) (p : Pair) : (drain ext s [p]).pending = [] := by
  rw [drain_single]; exact (procPair_pending ext _ p).elim id id

theorem step_head_option (s : PState) (t : Str) (pairs : List Pair)
    (he : s.err = none) (hc : s.ctx = .idle) (hopt : isOption t mode = (pairs, true)) :
    step ext mode s t = drain ext (headState s t) pairs := by
  have hd : (t == dashdash) = false := by simpa using isOption_true_ne_dashdash mode t pairs hopt
  unfold step
  rw [stepG_eq, byCtx_idle he hc, head_eq, hopt, if_pos ⟨rfl, hd, rfl⟩]

theorem step_single (s : PState) (t : Str) (p : Pair) (he : s.err = none) (hc : s.ctx = .idle)
    (hopt : isOption t mode = ([p], true)) :
    step ext mode s t = procPair ext { headState s t with pending := [] } p := by
  rw [step_head_option ext mode s t [p] he hc hopt, drain_single]

/-- an option token at a head position that splits into one pair resolving to option `oid`, whose attached values
are saved: the occurrence is open as long as there is room for more -/
theorem step_single_ok (s : PState) (t : Str) (p : Pair) (key : Str) (oid : Nat) (o' : Opt)
    (he : s.err = none) (hc : s.ctx = .idle) (hopt : isOption t mode = ([p], true))
    (hr : resolve (s.P.node s.cur) p.opt = [key]) (hl : lookup key (s.P.node s.cur).opts = some oid)
    (hs : save ext (s.P.node 0).mapKeysToLower (matched s oid key) p.args = .ok o') :
    step ext mode s t =
      { headState s t with P := s.P.setOpt oid o', pending := [],
                           ctx := if ((p.args.length : Nat) : Int) < o'.max then .collecting oid p.args.length else .idle } := by
  rw [step_single ext mode s t p he hc hopt,
    (ProcPair.saved (s := { headState s t with pending := [] }) key oid o' hr hl hs).eq, ← hc]
  rfl

/-- a token at a head position that is neither `--` nor split into option pairs: a sub-command name selects the
command, anything else is kept (and stops the parser under require-order) -/
theorem step_word (s : PState) (t : Str) (he : s.err = none) (hc : s.ctx = .idle)
    (hd : t ≠ dashdash) (hno : (isOption t mode).2 = false) :
    step ext mode s t = match lookup t (s.P.node s.cur).cmds with
      | some c => { s with cur := c, textStart := s.rem.length }
      | none => if (s.P.node s.cur).requireOrder then { s.addText t with ctx := .stopped } else s.addText t := by
  rw [step_head_other ext mode s t he hc hno, headOther, if_neg (by simpa using hd)]

theorem step_dashdash_head (s : PState) (he : s.err = none) (hc : s.ctx = .idle) :
    step ext mode s dashdash = { s with ctx := .stopped } :=
  step_head_other ext mode s dashdash he hc rfl

end GoModel
