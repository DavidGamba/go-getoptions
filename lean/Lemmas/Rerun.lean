import Lemmas.SchedMore
/-!
# A second `Run` of the same graph

`Run` keeps what it learnt in the graph: the status of every vertex and the collected errors
(`g.errs`).  A later `Run` of the same `*Graph` first returns `g.errs` if it is not empty; otherwise it
enters the loop again with a new `done` channel, a new semaphore and a fresh `handledContext`.
`rerun s` is that state.  After a run that returned (`exited`), every vertex is `done`, hence a
second run launches nothing, receives nothing and leaves through `exit` at once - with the same
verdict as the first.
-/
namespace GoModel.Dag

/-- after the loop has ended every vertex of the graph is `done` -/
def ExitInv (c : Cfg) (s : Sched) : Prop := s.exited = true → allDone c s = true

theorem exitInv_step (c : Cfg) (s s' : Sched) (ev : Event) (h : ExitInv c s) (hs : step? c s ev = some s') :
    ExitInv c s' := by
  intro he'
  have hst := step?_step hs
  cases he : s.exited with
  | true =>
    -- after the end only a late semaphore release is possible; it does not touch any status
    obtain ⟨w, rfl⟩ := step?_exited hs he
    cases hst with
    | vertex hv _ => cases hv with
      | semRel =>
        have hd := allDone_iff.mp (h he)
        refine allDone_iff.mpr fun y hy => ?_
        rw [report_get, get_set]; split
        · rename_i e; subst e; exact hd y hy
        · exact hd y hy
  | false =>
    rw [hst.exited, he] at he'
    have : ev = .exit := by simpa using he'
    subst this
    cases hst with
    | exit hd => exact hd
    | vertex hv _ => cases hv

theorem reachable_exitInv (c : Cfg) (s : Sched) (h : Reachable c s) : ExitInv c s :=
  h.induct (fun h => by simp [initSched] at h) (exitInv_step c)

/-- what the first statement of a later `Run` returns, if anything -/
def secondRunEarly (s : Sched) : Option (List Entry) := if s.errs.isEmpty then none else some s.errs

/-- the state in which a later `Run` of the same graph enters its loop: vertex statuses (and the ghost
fields) and the collected errors are kept; the goroutines, completions and semaphore slots of the
earlier run belong to its own channels and are gone; the cancellation flag is local to a run -/
def rerun (s : Sched) : Sched :=
  { vs := fun v => { s.vs v with fl := .none, pseudo := [], sem := false },
    errs := s.errs, cancelled := false, exited := false }

theorem allDone_rerun (c : Cfg) (s : Sched) : allDone c (rerun s) = allDone c s := rfl

/-- a vertex with no goroutine, no outstanding completion and no slot can only be picked -/
theorem VStep.pick_of_quiet {c : Cfg} {s : Sched} {ev : Event} {v : Nat} {x : VState} (h : VStep c s v ev x)
    (hf : (s.get v).fl = .none) (hp : (s.get v).pseudo = []) (hs : (s.get v).sem = false) :
    c.g.has v = true ∧ ((s.get v).st = .pending ∨ (s.get v).st = .skip) := by
  cases h with
  | pickReal hv _ _ hst | pickErr hv _ _ hst => exact ⟨hv, .inl hst⟩
  | pickSkip hv _ _ hst => exact ⟨hv, .inr hst⟩
  | recv r _ hr => rw [hp, hf] at hr; rcases hr with hr | hr <;> cases hr
  | semAcq hf' | lockAcq hf' | enter _ hf' | leaveSend _ _ hf' | leaveRetry _ _ hf' => rw [hf] at hf'; cases hf'
  | semRel hs' => rw [hs] at hs'; cases hs'

/-- the cancellation is possible in the model only: the Go code tests the context only after `getNextVertex` found
something left to do -/
theorem second_run_starts_nothing (c : Cfg) (s s' : Sched) (ev : Event) (hd : allDone c s = true)
    (hs : step? c (rerun s) ev = some s') : ev = .exit ∨ ev = .cancel := by
  -- `rerun s` has no goroutines, completions or slots, so a vertex event would be a pick; but every vertex is done
  have quiet : ∀ {v x} {ev : Event}, VStep c (rerun s) v ev x → False := by
    intro v x ev hv
    obtain ⟨hh, hst⟩ := hv.pick_of_quiet rfl rfl rfl
    have hdone : ((rerun s).get v).st = .done := allDone_iff.mp hd v ((has_iff_mem_ids _ _).mp hh)
    rw [hdone] at hst
    rcases hst with h | h <;> cases h
  cases step?_step hs with
  | exit => exact .inl rfl
  | cancel => exact .inr rfl
  | idle hnd => rw [allDone_rerun, hd] at hnd; cases hnd
  | vertex hv _ => exact (quiet hv).elim
  | skip hv => exact (quiet hv).elim

theorem second_run_exits (c : Cfg) (s : Sched) (hd : allDone c s = true) :
    step? c (rerun s) .exit = some { rerun s with exited := true } := by
  have hd' : allDone c (rerun s) = true := hd
  have hx : (rerun s).exited = false := rfl
  simp [step?, hd', hx]

end GoModel.Dag
