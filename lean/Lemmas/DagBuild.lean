import Model.Dag
/-! The graph built by any history of construction calls (`AddTask`, `TaskDependsOn`, `TaskRetries`, also with `g.Task(id)`
arguments; `TaskMap.Add`) is well formed:
distinct ids, every child and parent registered, child and parent lists mirror each other.

Every construction call is a sequence of five kinds of elementary change (`GMove`; `buildStep_moves` walks down
the layers of the API once), so a property of the construction is checked per kind of change. -/
namespace GoModel.Dag

theorem find_map_id (l : List Vertex) (h : Vertex → Vertex) (hid : ∀ v, (h v).id = v.id) (y : Nat) :
    (l.map h).find? (·.id == y) = (l.find? (·.id == y)).map h := by
  rw [List.find?_map]; simp only [Function.comp_def, hid]

theorem find_id {l : List Vertex} {y : Nat} {v : Vertex} (h : l.find? (·.id == y) = some v) : v.id = y := by
  have := List.find?_some h; simpa using this

theorem modify_find (g : GState) (x : Nat) (f : Vertex → Vertex) (hid : ∀ v, (f v).id = v.id) (y : Nat) :
    (g.modify x f).find y = if y = x then (g.find y).map f else g.find y := by
  unfold GState.modify GState.find
  rw [find_map_id g.verts _ (by intro v; split <;> simp [hid]) y]
  cases hf : g.verts.find? (·.id == y) with
  | none => simp
  | some w => by_cases e : y = x <;> simp [find_id hf, e]

theorem modify_ids (g : GState) (x : Nat) (f : Vertex → Vertex) (hid : ∀ v, (f v).id = v.id) :
    (g.modify x f).ids = g.ids := by
  unfold GState.modify GState.ids
  simp only [List.map_map]
  congr 1
  funext v
  simp only [Function.comp]
  split <;> simp [hid]

theorem has_iff_find (g : GState) (y : Nat) : g.has y = true ↔ ∃ v, g.find y = some v := by
  unfold GState.has GState.find
  rw [List.any_eq_true]
  constructor
  · rintro ⟨v, hv, he⟩
    cases hf : g.verts.find? (·.id == y) with
    | some w => exact ⟨w, rfl⟩
    | none => exact absurd he (by simpa using (List.find?_eq_none.mp hf) v hv)
  · rintro ⟨v, hv⟩
    exact ⟨v, List.mem_of_find?_eq_some hv, by have := List.find?_some hv; simpa using this⟩

theorem has_iff_mem_ids (g : GState) (y : Nat) : g.has y = true ↔ y ∈ g.ids := by
  unfold GState.has GState.ids
  rw [List.any_eq_true, List.mem_map]
  constructor
  · rintro ⟨v, hv, he⟩; exact ⟨v, hv, by simpa using he⟩
  · rintro ⟨v, hv, he⟩; exact ⟨v, hv, by simpa using he⟩

theorem modify_has (g : GState) (x : Nat) (f : Vertex → Vertex) (hid : ∀ v, (f v).id = v.id) (y : Nat) :
    (g.modify x f).has y = g.has y := by
  rw [Bool.eq_iff_iff, has_iff_mem_ids, has_iff_mem_ids, modify_ids g x f hid]

structure GInv (g : GState) : Prop where
  nodup : g.ids.Nodup
  kids : ∀ v c, c ∈ g.children v → g.has c = true
  pars : ∀ v p, p ∈ g.parents v → g.has p = true
  sym : ∀ a c, c ∈ g.children a ↔ a ∈ g.parents c

/-- a list-valued field of an unregistered vertex is empty -/
theorem has_of_mem_field {α} {π : Vertex → List α} {g : GState} {v : Nat} {c : α}
    (h : c ∈ ((g.find v).map π).getD []) : g.has v = true := by
  cases hf : g.find v with
  | none => rw [hf] at h; simp at h
  | some w => exact (has_iff_find g v).mpr ⟨w, hf⟩

/-- only a registered vertex has children or parents, so the mirror clause implies the two registration clauses -/
theorem GInv.of_sym {g : GState} (hn : g.ids.Nodup) (hs : ∀ a c, c ∈ g.children a ↔ a ∈ g.parents c) : GInv g :=
  ⟨hn, fun v c h => has_of_mem_field (π := Vertex.parents) ((hs v c).mp h),
    fun v p h => has_of_mem_field (π := Vertex.children) ((hs p v).mpr h), hs⟩

theorem ginv_empty : GInv {} := .of_sym .nil fun _ _ => by simp [GState.children, GState.parents, GState.find]

/-- the invariant only speaks about the vertices -/
theorem ginv_of_verts (g g' : GState) (hv : g'.verts = g.verts) (h : GInv g) : GInv g' := by
  refine .of_sym (by simpa [GState.ids, hv] using h.nodup) fun a c => ?_
  simpa [GState.children, GState.parents, GState.find, hv] using h.sym a c

/-! `children`, `parents` and `retriesOf` all have the form `((g.find y).map π).getD d`. -/

theorem modify_proj {α} (π : Vertex → α) (d : α) (g : GState) (x : Nat) (f : Vertex → Vertex)
    (hid : ∀ v, (f v).id = v.id) (y : Nat) :
    (((g.modify x f).find y).map π).getD d =
      if y = x then ((g.find y).map fun w => π (f w)).getD d else ((g.find y).map π).getD d := by
  rw [modify_find g x f hid y]
  split
  · rw [Option.map_map]; rfl
  · rfl

theorem modify_children_same (g : GState) (x : Nat) (f : Vertex → Vertex) (hid : ∀ v, (f v).id = v.id)
    (hsame : ∀ w, (f w).children = w.children) (y : Nat) : (g.modify x f).children y = g.children y := by
  unfold GState.children
  rw [modify_proj _ _ g x f hid]
  simp [hsame]

theorem modify_parents_same (g : GState) (x : Nat) (f : Vertex → Vertex) (hid : ∀ v, (f v).id = v.id)
    (hsame : ∀ w, (f w).parents = w.parents) (y : Nat) : (g.modify x f).parents y = g.parents y := by
  unfold GState.parents
  rw [modify_proj _ _ g x f hid]
  simp [hsame]

theorem modify_children_snoc (g : GState) (v c : Nat) (hv : g.has v = true) (y : Nat) :
    (g.modify v fun x => { x with children := x.children ++ [c] }).children y =
      if y = v then g.children y ++ [c] else g.children y := by
  unfold GState.children
  rw [modify_proj _ _ g v _ (by intro; rfl)]
  split
  · rename_i e; subst e
    obtain ⟨w, hw⟩ := (has_iff_find g y).mp hv
    simp [hw]
  · rfl

theorem modify_parents_snoc (g : GState) (c v : Nat) (hc : g.has c = true) (y : Nat) :
    (g.modify c fun x => { x with parents := x.parents ++ [v] }).parents y =
      if y = c then g.parents y ++ [v] else g.parents y := by
  unfold GState.parents
  rw [modify_proj _ _ g c _ (by intro; rfl)]
  split
  · rename_i e; subst e
    obtain ⟨w, hw⟩ := (has_iff_find g y).mp hc
    simp [hw]
  · rfl

/-- a fresh vertex whose field has the default value changes no look-up of that field -/
theorem append_proj {α} (π : Vertex → α) (g : GState) (x : Nat) (y : Nat) :
    ((({ g with verts := g.verts ++ [{ id := x }] } : GState).find y).map π).getD (π { id := x }) =
      ((g.find y).map π).getD (π { id := x }) := by
  unfold GState.find
  simp only [List.find?_append]
  cases g.verts.find? (·.id == y) with
  | some w => rfl
  | none => simp only [Option.none_or, List.find?_cons, List.find?_nil]; split <;> rfl

theorem has_append (g : GState) (x y : Nat) :
    ({ g with verts := g.verts ++ [{ id := x }] } : GState).has y = (g.has y || x == y) := by
  simp [GState.has, List.any_append]

theorem ginv_append (g : GState) (x : Nat) (h : GInv g) (hx : g.has x = false) :
    GInv { g with verts := g.verts ++ [{ id := x }] } := by
  refine .of_sym ?_ fun a c => ?_
  · show (List.map (·.id) (g.verts ++ [{ id := x }])).Nodup
    rw [List.map_append, List.nodup_append]
    refine ⟨h.nodup, by simp, fun a ha b hb e => ?_⟩
    simp at hb; subst hb; subst e
    have := (has_iff_mem_ids g a).mpr ha
    simp [hx] at this
  · have h1 : ({ g with verts := g.verts ++ [{ id := x }] } : GState).children a = g.children a :=
      append_proj Vertex.children g x a
    have h2 : ({ g with verts := g.verts ++ [{ id := x }] } : GState).parents c = g.parents c :=
      append_proj Vertex.parents g x c
    rw [h1, h2]; exact h.sym a c

theorem ginv_edge (g : GState) (v c : Nat) (h : GInv g) (hv : g.has v = true) (hc : g.has c = true) :
    GInv ((g.modify v fun x => { x with children := x.children ++ [c] }).modify c
            fun x => { x with parents := x.parents ++ [v] }) := by
  have hc1 : (g.modify v fun x => { x with children := x.children ++ [c] }).has c = true := by
    rw [modify_has _ _ _ (by intro; rfl)]; exact hc
  refine .of_sym ?_ fun a k => ?_
  · rw [modify_ids _ _ _ (by intro; rfl), modify_ids _ _ _ (by intro; rfl)]; exact h.nodup
  · rw [modify_children_same _ c _ (by intro; rfl) (by intro; rfl), modify_children_snoc g v c hv,
      modify_parents_snoc _ c v hc1, modify_parents_same g v _ (by intro; rfl) (by intro; rfl)]
    by_cases e1 : a = v <;> by_cases e2 : k = c <;> simp [e1, e2, h.sym]

theorem ginv_retries (g : GState) (v : Nat) (n : Int) (h : GInv g) :
    GInv (g.modify v fun x => { x with retries := n }) := by
  refine .of_sym (by rw [modify_ids g v _ (by intro; rfl)]; exact h.nodup) fun a c => ?_
  rw [modify_children_same g v _ (by intro; rfl) (by intro; rfl),
    modify_parents_same g v _ (by intro; rfl) (by intro; rfl)]
  exact h.sym a c

inductive GMove : GState → GState → Prop
  | err (g : GState) (es : List BuildErr) : GMove g { g with errs := g.errs ++ es }
  | tm (g : GState) (tm : List (Nat × Bool)) (es : List BuildErr) :
      GMove g { g with tm := tm, tmErrs := g.tmErrs ++ es }
  | vertex (g : GState) (x : Nat) : g.has x = false →
      GMove g { g with verts := g.verts ++ [{ id := x }] }
  | edge (g : GState) (v c : Nat) : g.has v = true → g.has c = true →
      GMove g ((g.modify v fun x => { x with children := x.children ++ [c] }).modify c
                fun x => { x with parents := x.parents ++ [v] })
  | retries (g : GState) (v : Nat) (n : Int) : GMove g (g.modify v fun x => { x with retries := n })

inductive GMoves : GState → GState → Prop
  | refl (g : GState) : GMoves g g
  | tail {a b c : GState} : GMoves a b → GMove b c → GMoves a c

theorem GMoves.one {a b : GState} (h : GMove a b) : GMoves a b := .tail (.refl a) h

theorem GMoves.trans {a b c : GState} (h1 : GMoves a b) (h2 : GMoves b c) : GMoves a c := by
  induction h2 with
  | refl => exact h1
  | tail _ m ih => exact .tail ih m

theorem GMoves.err (g : GState) (e : BuildErr) : GMoves g { g with errs := g.errs ++ [e] } := .one (.err g [e])

theorem GMoves.lift {R : GState → GState → Prop} (hrefl : ∀ g, R g g)
    (htrans : ∀ {a b c}, R a b → R b c → R a c) (hmove : ∀ {a b}, GMove a b → R a b) {g g' : GState}
    (h : GMoves g g') : R g g' := by
  induction h with
  | refl => exact hrefl _
  | tail _ m ih => exact htrans ih (hmove m)

theorem GMoves.preserves {P : GState → Prop} (hmove : ∀ {a b}, GMove a b → P a → P b) {g g' : GState}
    (h : GMoves g g') : P g → P g' :=
  h.lift (R := fun a b => P a → P b) (fun _ => id) (fun f g => g ∘ f) hmove

theorem GMove.has_mono {a b : GState} (m : GMove a b) (y : Nat) (h : a.has y = true) : b.has y = true := by
  cases m with
  | err | tm => exact h
  | vertex x _ => simp [has_append, h]
  | edge v c _ _ => rw [modify_has _ _ _ (by intro; rfl), modify_has _ _ _ (by intro; rfl)]; exact h
  | retries v n => rw [modify_has _ _ _ (by intro; rfl)]; exact h

theorem GMoves.has_mono {g g' : GState} (h : GMoves g g') (y : Nat) : g.has y = true → g'.has y = true :=
  h.preserves (P := fun g => g.has y = true) (fun m => m.has_mono y)

theorem addTask_moves {g g' : GState} {t : Option TaskRef} (hr : addTask g t = .ok g') :
    GMoves g g' ∧ ∀ tr, t = some tr → g'.has tr.id = true := by
  unfold addTask at hr
  split at hr
  · cases hr
  · rename_i tr
    split at hr
    · cases hr
    · split at hr
      · cases hr
      · split at hr
        · rename_i hhas; cases hr; exact ⟨.refl _, fun _ e => by cases e; exact hhas⟩
        · rename_i hhas; cases hr
          exact ⟨.one (.vertex g tr.id (by simpa using hhas)), fun _ e => by cases e; simp [has_append]⟩

theorem retrieveOrAdd_moves {g g' : GState} {t : Option TaskRef} {v : Nat}
    (hr : retrieveOrAdd g t = .ok (g', v)) : GMoves g g' ∧ g'.has v = true := by
  unfold retrieveOrAdd at hr
  split at hr
  · cases hr
  · rename_i tr
    split at hr
    · rename_i hhas; cases hr; exact ⟨.refl _, hhas⟩
    · split at hr
      · rename_i g2 hadd; cases hr
        exact ⟨(addTask_moves hadd).1, (addTask_moves hadd).2 tr rfl⟩
      · cases hr

theorem addDeps_moves (deps : List (Option TaskRef)) (g : GState) (v : Nat) (hv : g.has v = true) :
    GMoves g (addDeps g v deps) := by
  induction deps generalizing g with
  | nil => exact .refl _
  | cons d ds ih =>
    unfold addDeps
    split
    · exact .err g _
    · rename_i g1 c hr
      have ⟨m, hc⟩ := retrieveOrAdd_moves hr
      have hv1 := m.has_mono v hv
      split
      · exact m.trans (.err g1 _)
      · have e := GMove.edge g1 v c hv1 hc
        exact (m.tail e).trans (ih _ (e.has_mono v hv1))

theorem evalRef_moves (g : GState) (t : Option TaskRef) : GMoves g (evalRef g t).1 := by
  unfold evalRef
  split
  · exact .refl _
  · split
    · exact .refl _
    · split
      · exact .refl _
      · exact .err g _
    · split
      · exact .refl _
      · exact .one (.tm g g.tm [_])

theorem evalRefs_moves (ts : List (Option TaskRef)) (g : GState) : GMoves g (evalRefs g ts).1 := by
  induction ts generalizing g with
  | nil => exact .refl _
  | cons t r ih => simp only [evalRefs]; exact (evalRef_moves g t).trans (ih _)

theorem tmAdd_moves (g : GState) (id : Nat) (f : Bool) : GMoves g (tmAdd g id f) := by
  unfold tmAdd
  simp only [List.append_assoc]
  exact .one (.tm g _ _)

theorem buildCore_moves (g : GState) (op : GOp) : GMoves g (buildCore g op) := by
  cases op with
  | lookup t => exact .refl _
  | tmAdd id f => exact tmAdd_moves g id f
  | addTask t =>
    simp only [buildCore]
    split
    · rename_i g' hr; exact (addTask_moves hr).1
    · exact .err g _
  | dependsOn t deps =>
    simp only [buildCore]
    split
    · exact .err g _
    · rename_i g1 v hr
      exact (retrieveOrAdd_moves hr).1.trans (addDeps_moves deps g1 v (retrieveOrAdd_moves hr).2)
  | retries t n =>
    simp only [buildCore]
    split
    · exact .err g _
    · rename_i g1 v hr
      exact (retrieveOrAdd_moves hr).1.tail (.retries g1 v _)

theorem buildStep_moves (g : GState) (op : GOp) : GMoves g (buildStep g op) := by
  cases op with
  | addTask t => simp only [buildStep]; exact (evalRef_moves g t).trans (buildCore_moves _ _)
  | dependsOn t deps =>
    simp only [buildStep]
    exact ((evalRef_moves g t).trans (evalRefs_moves deps _)).trans (buildCore_moves _ _)
  | retries t n => simp only [buildStep]; exact (evalRef_moves g t).trans (buildCore_moves _ _)
  | lookup t => exact evalRef_moves g t
  | tmAdd id f => simp only [buildStep]; exact buildCore_moves _ _

theorem foldl_moves (ops : List GOp) (g : GState) : GMoves g (ops.foldl buildStep g) := by
  induction ops generalizing g with
  | nil => exact .refl _
  | cons op r ih => exact (buildStep_moves g op).trans (ih _)

theorem GMove.ginv {a b : GState} (m : GMove a b) (h : GInv a) : GInv b := by
  cases m with
  | err | tm => exact ginv_of_verts a _ rfl h
  | vertex x hx => exact ginv_append a x h hx
  | edge v c hv hc => exact ginv_edge a v c h hv hc
  | retries v n => exact ginv_retries a v n h

theorem buildStep_inv (g : GState) (op : GOp) (h : GInv g) : GInv (buildStep g op) :=
  (buildStep_moves g op).preserves GMove.ginv h

theorem buildGraph_inv (ops : List GOp) : GInv (buildGraph ops) :=
  (foldl_moves ops {}).preserves GMove.ginv ginv_empty

/-- the task argument of the examples: a task object with id `i` (and a function) -/
def t (i : Nat) : Option TaskRef := some { id := i }

end GoModel.Dag
