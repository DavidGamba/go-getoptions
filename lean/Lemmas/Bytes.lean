import Model.IsOption
/-! `nameOf` and `restOf` (the split at the first `=`) on `name ++ t` for a name without `=`. -/
namespace GoModel

/-- a name without `=` is read in full: the split of `name ++ t` happens inside `t` -/
theorem nameOf_append (name t : Str) (h : ∀ c ∈ name, c ≠ chEq) : nameOf (name ++ t) = name ++ nameOf t :=
  List.takeWhile_append_of_pos fun c hc => bne_iff_ne.mpr (h c hc)

theorem restOf_append (name t : Str) (h : ∀ c ∈ name, c ≠ chEq) : restOf (name ++ t) = restOf t :=
  List.dropWhile_append_of_pos fun c hc => bne_iff_ne.mpr (h c hc)

theorem nameOf_append_eq (name v : Str) (h : ∀ c ∈ name, c ≠ chEq) :
    nameOf (name ++ chEq :: v) = name :=
  (nameOf_append name _ h).trans (List.append_nil name)

theorem restOf_append_eq (name v : Str) (h : ∀ c ∈ name, c ≠ chEq) :
    restOf (name ++ chEq :: v) = chEq :: v :=
  restOf_append name _ h

theorem nameOf_noEq (name : Str) (h : ∀ c ∈ name, c ≠ chEq) : nameOf name = name := by
  have := nameOf_append name [] h
  rw [List.append_nil] at this
  exact this.trans (List.append_nil name)

theorem restOf_noEq (name : Str) (h : ∀ c ∈ name, c ≠ chEq) : restOf name = [] := by
  have := restOf_append name [] h
  rwa [List.append_nil] at this

theorem nameOf_restOf (s : Str) : nameOf s ++ restOf s = s := by
  simp [nameOf, restOf, List.takeWhile_append_dropWhile]

theorem attached_eq (v : Str) (hv : v ≠ []) : attached (chEq :: v) = [v] := by
  obtain ⟨a, r, rfl⟩ := List.exists_cons_of_ne_nil hv
  rfl

end GoModel
