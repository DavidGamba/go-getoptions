import Lemmas.Bytes
import Lemmas.Explode
/-! The splitter on option tokens `-NAME[=V]` and `--NAME[=V]`, for every NAME and V. -/
namespace GoModel

/-- regex group 3 of a token: empty, or `=` followed by anything -/
def G3 (g3 : Str) : Prop := g3 = [] ∨ ∃ v, g3 = chEq :: v

theorem nameOf_g3 (name g3 : Str) (hne : ∀ c ∈ name, c ≠ chEq) (hg : G3 g3) :
    nameOf (name ++ g3) = name ∧ restOf (name ++ g3) = g3 := by
  rcases hg with h | ⟨v, h⟩
  · subst h; simp [nameOf_noEq name hne, restOf_noEq name hne]
  · subst h; exact ⟨nameOf_append_eq name v hne, restOf_append_eq name v hne⟩

/-- what the regular expression makes of `--x…` and of `-x…`, `x` not `=` (and not `-`: that is the long form) -/
theorem splitDashes_cons (c : UInt8) (r : Str) (he : c ≠ chEq) :
    splitDashes (chDash :: chDash :: c :: r) = some (true, nameOf (c :: r), restOf (c :: r)) ∧
    (c ≠ chDash → splitDashes (chDash :: c :: r) = some (false, nameOf (c :: r), restOf (c :: r))) := by
  have hc : (c != chEq) = true := bne_iff_ne.mpr he
  refine ⟨by simp [splitDashes, chDash, hc], fun hd => ?_⟩
  have hd' : ¬ c = 45 := hd
  unfold splitDashes
  split
  · rename_i heq; cases heq; exact absurd rfl hd'
  · rename_i heq; cases heq; simp [hc]
  · rename_i h2; exact absurd rfl (h2 c r)

/-- what the splitter does with a single-dash token, per mode -/
def singleSplit (name g3 : Str) : Mode → List Pair × Bool
  | .normal => ([⟨name, attached g3⟩], true)
  | .bundling => (bundlePairs (explode name) (attached g3), true)
  | .singleDash =>
    ([⟨name.take (utf8Width name),
       if name.drop (utf8Width name) ++ g3 = [] then [] else [name.drop (utf8Width name) ++ g3]⟩], true)

/-- a token the regular expression accepts, other than `--`, is split by what the expression yields -/
theorem isOption_of_split {s : Str} {m : Mode} {l : Bool} {name g3 : Str} (h : splitDashes s = some (l, name, g3))
    (h2 : s ≠ [chDash, chDash]) :
    isOption s m = if l then ([⟨name, attached g3⟩], true) else singleSplit name g3 m := by
  have h1 : s ≠ [chDash] := fun e => by subst e; cases h
  unfold isOption
  rw [beq_false_of_ne h2, beq_false_of_ne h1, h]
  cases l
  · cases m
    · rfl
    · rfl
    · -- something is left for the value iff the name is longer than its first character or `=…` follows
      have : name.drop (utf8Width name) ++ g3 = [] ↔ ¬ (name.length > utf8Width name ∨ g3.length > 0) := by
        rw [List.append_eq_nil_iff, List.drop_eq_nil_iff, ← List.length_eq_zero_iff]; omega
      simp only [singleSplit, Bool.false_eq_true, ↓reduceIte, Bool.or_eq_true, decide_eq_true_eq]
      by_cases hr : name.length > utf8Width name ∨ g3.length > 0
      · rw [if_pos hr, if_neg (mt this.mp (not_not_intro hr))]
      · rw [if_neg hr, if_pos (this.mpr hr)]
  · rfl

/-- `-NAME[=V]`: NAME non-empty, not starting with `-`, containing no `=` -/
structure SName (name : Str) : Prop where
  ne : name ≠ []
  nodash : name.head? ≠ some chDash
  noeq : ∀ c ∈ name, c ≠ chEq

theorem isOption_single (name g3 : Str) (m : Mode) (hn : SName name) (hg : G3 g3) :
    isOption (chDash :: (name ++ g3)) m = singleSplit name g3 m := by
  obtain ⟨hne, hd, hq⟩ := hn
  obtain ⟨c, r, rfl⟩ := List.exists_cons_of_ne_nil hne
  have hs := (splitDashes_cons c (r ++ g3) (hq c List.mem_cons_self)).2 fun e => hd (e ▸ rfl)
  rw [← List.cons_append, (nameOf_g3 _ g3 hq hg).1, (nameOf_g3 _ g3 hq hg).2] at hs
  exact isOption_of_split hs fun e => hd (by rw [(List.cons.inj (List.cons.inj e).2).1]; rfl)

/-- `--NAME[=V]` is one pair in every mode -/
theorem isOption_long (name g3 : Str) (m : Mode) (hne : name ≠ []) (hq : ∀ c ∈ name, c ≠ chEq) (hg : G3 g3) :
    isOption (chDash :: chDash :: (name ++ g3)) m = ([⟨name, attached g3⟩], true) := by
  obtain ⟨c, r, rfl⟩ := List.exists_cons_of_ne_nil hne
  have hs := (splitDashes_cons c (r ++ g3) (hq c List.mem_cons_self)).1
  rw [← List.cons_append, (nameOf_g3 _ g3 hq hg).1, (nameOf_g3 _ g3 hq hg).2] at hs
  exact isOption_of_split hs (by simp)

/-- `--name=v` is split into the option `name` with the attached argument `v`, in every mode,
whatever bytes `v` consists of (leading dashes, further `=`, spaces, newlines). -/
theorem long_attached (name v : Str) (m : Mode) (hn : name ≠ []) (hne : ∀ c ∈ name, c ≠ chEq)
    (hv : v ≠ []) :
    isOption (chDash :: chDash :: (name ++ chEq :: v)) m = ([⟨name, [v]⟩], true) := by
  rw [isOption_long name (chEq :: v) m hn hne (Or.inr ⟨v, rfl⟩), attached_eq v hv]

/-- `--name` (no `=`) is the option `name` without attached argument, in every mode. -/
theorem long_bare (name : Str) (m : Mode) (hn : name ≠ []) (hne : ∀ c ∈ name, c ≠ chEq) :
    isOption (chDash :: chDash :: name) m = ([⟨name, []⟩], true) := by
  have := isOption_long name [] m hn hne (Or.inl rfl)
  rwa [List.append_nil] at this

theorem mem_nameOf_ne (s : Str) : ∀ c ∈ nameOf s, c ≠ chEq := by
  induction s with
  | nil => exact fun _ h => nomatch h
  | cons a s ih =>
    intro c hc
    rw [nameOf, List.takeWhile_cons] at hc
    split at hc
    · rcases List.mem_cons.mp hc with rfl | h
      · exact bne_iff_ne.mp ‹_›
      · exact ih c h
    · cases hc

/-- the text after a single dash that the regular expression accepts is always NAME ++ G3: what is stated for
`-NAME[=V]` over `SName` / `G3` covers every single-dash option token -/
theorem sname_g3 (c : UInt8) (r : Str) (hd : c ≠ chDash) (he : c ≠ chEq) :
    SName (nameOf (c :: r)) ∧ G3 (restOf (c :: r)) := by
  have hc : (c != chEq) = true := by simpa using he
  refine ⟨⟨?_, ?_, mem_nameOf_ne _⟩, ?_⟩
  · simp [nameOf, hc]
  · simpa [nameOf, List.takeWhile_cons, hc] using hd
  · have := List.head?_dropWhile_not (· != chEq) (c :: r)
    unfold restOf
    cases h : (c :: r).dropWhile (· != chEq) with
    | nil => exact .inl rfl
    | cons x v => rw [h] at this; exact .inr ⟨v, by simp at this; rw [this]⟩

theorem sname_take (name : Str) (hn : SName name) : SName (name.take (utf8Width name)) := by
  obtain ⟨hne, hd, hq⟩ := hn
  obtain ⟨c, r, rfl⟩ := List.exists_cons_of_ne_nil hne
  obtain ⟨n, h⟩ := Nat.exists_eq_succ_of_ne_zero (Nat.ne_of_gt (utf8Width_pos_ne _ hne))
  rw [h]
  exact ⟨List.cons_ne_nil _ _, hd, fun c hc => hq c (List.mem_of_mem_take hc)⟩

theorem bundlePairs_single (l : Str) (args : List Str) : bundlePairs [l] args = [⟨l, args⟩] := rfl

theorem bundlePairs_append (ls : List Str) (l : Str) (args : List Str) :
    bundlePairs (ls ++ [l]) args = ls.map (fun x => ⟨x, []⟩) ++ [⟨l, args⟩] := by
  induction ls with
  | nil => rfl
  | cons x xs ih =>
    cases xs with
    | nil => rfl
    | cons y ys =>
      simp only [List.cons_append, List.map_cons] at ih ⊢
      rw [bundlePairs, ih]
      all_goals simp

theorem explode_head_ne_dash (name l : Str) (hnd : ∀ c ∈ name, c ≠ chDash) (hl : l ∈ explode name) :
    l.head? ≠ some chDash :=
  fun e => hnd chDash (explode_mem_sub name l hl chDash (List.mem_of_mem_head? e)) rfl

/-- a piece of an `SName` is again an `SName` provided it does not start with `-` -/
theorem sname_piece (name l : Str) (hn : SName name) (hl : l ∈ explode name) (hd : l.head? ≠ some chDash) :
    SName l :=
  ⟨(explode_piece name l hl).1, hd, fun c hc => hn.noeq c (explode_mem_sub name l hl c hc)⟩

/-- Bundling: one letter (a piece of a bundle) with an optional attached value is one pair -/
theorem bundling_letter (name l g3 : Str) (hn : SName name) (hl : l ∈ explode name)
    (hd : l.head? ≠ some chDash) (hg : G3 g3) :
    isOption (chDash :: (l ++ g3)) .bundling = ([⟨l, attached g3⟩], true) := by
  rw [isOption_single l g3 .bundling (sname_piece name l hn hl hd) hg]
  simp [singleSplit, explode_idem name l hl, bundlePairs]

theorem looksLikeOption_eq (s : Str) (m : Mode) :
    looksLikeOption s m = (!(s == [chDash, chDash]) && (s == [chDash] || (splitDashes s).isSome)) := by
  unfold looksLikeOption isOption
  cases s == [chDash, chDash]
  · cases s == [chDash]
    · simp only [Bool.false_eq_true, ↓reduceIte]
      rcases splitDashes s with _ | ⟨_ | _, name, g3⟩
      · rfl
      · cases m
        · rfl
        · rfl
        · dsimp only; split <;> rfl
      · rfl
    · rfl
  · rfl

end GoModel
