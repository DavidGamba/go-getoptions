import Lemmas.Dispatch
/-!
# Conservation invariant of the argument loop

`Inv s done`: after the tokens `done`, the remaining list is a (positional) sublist of `done`; while
the letters of a bundled token are still pending, it even embeds in the tokens before that token
(plus the token itself once it was passed through) — so that passing the token through later keeps
the order.
-/
namespace GoModel

variable (ext : Ext) (mode : Mode)

/-- invariant while the pairs of one (bundled) token are being processed; `d1` = tokens before it -/
structure BInv (s : PState) (d1 : List Str) : Prop where
  sub : s.rem.Sublist (d1 ++ (if s.passed then [s.tok] else []))
  ro : s.passed = true → (s.P.node s.cur).requireOrder = false

/-- what holds while the pairs of the token `T` are processed (`d1` = the tokens before it): a state that failed or stopped
owes nothing further -/
structure BOk (T : Str) (d1 : List Str) (s : PState) : Prop where
  tok : s.tok = T
  sub : s.err = none → s.rem.Sublist (d1 ++ [T])
  binv : s.err = none → s.ctx ≠ .stopped → BInv s d1

theorem BInv.sub_tok {s : PState} {d1 : List Str} (h : BInv s d1) : s.rem.Sublist (d1 ++ [s.tok]) := by
  have := h.sub
  split at this
  · exact this
  · exact this.trans (by simp)

theorem BInv.ok {s : PState} {d1 : List Str} (h : BInv s d1) : BOk s.tok d1 s := ⟨rfl, fun _ => h.sub_tok, fun _ _ => h⟩

/-- the fields `offer` may change are not read by the bundle invariant -/
theorem BInv.frame {s : PState} {d1 : List Str} (h : BInv s d1) (P' : Prog) (l : Str) (e : Option PErr) (c : Ctx)
    (hn : ∀ n, P'.node n = s.P.node n) : BInv { s with P := P', lastTok := l, err := e, ctx := c } d1 :=
  ⟨h.sub, fun hp => (congrArg Node.requireOrder (hn s.cur)).trans (h.ro hp)⟩

theorem BOk.cast {T T' : Str} {s : PState} {d1 : List Str} (h : BOk T d1 s) (e : T = T') : BOk T' d1 s := e ▸ h

theorem BOk.of_err {T : Str} {s : PState} {d1 : List Str} (he : s.err ≠ none) (ht : s.tok = T) : BOk T d1 s :=
  ⟨ht, fun h => absurd h he, fun h => absurd h he⟩

theorem BOk.withPending {T : Str} {s : PState} {d1 : List Str} (h : BOk T d1 s) (ps : List Pair) :
    BOk T d1 { s with pending := ps } :=
  ⟨h.tok, h.sub, fun he hc => ⟨(h.binv he hc).sub, (h.binv he hc).ro⟩⟩

theorem procPair_pending_ok (s : PState) (p : Pair) (ps : List Pair) (d1 : List Str) (h : BInv s d1) :
    BOk s.tok d1 (procPair ext { s with pending := ps } p) := by
  -- the token is passed through at most once, and only where require-order is off
  have hkept : s.passed = false → (s.rem ++ [s.tok]).Sublist (d1 ++ [s.tok]) := fun hp => by
    have hs := h.sub
    simp only [hp] at hs
    simpa using hs.append (List.Sublist.refl [s.tok])
  have hsp := procPair_spec ext { s with pending := ps } p
  generalize procPair ext { s with pending := ps } p = r at hsp ⊢
  cases hsp with
  | roStop _ hro =>
    have hp : s.passed = false := Bool.eq_false_iff.mpr fun hps => by simp [h.ro hps] at hro
    exact ⟨rfl, fun _ => hkept hp, fun _ hc => absurd rfl hc⟩
  | unknownKept _ hro hcond =>
    have hp : s.passed = false := by
      simp only [Bool.and_eq_true, Bool.not_eq_true'] at hcond
      exact hcond.2
    exact ⟨rfl, fun _ => hkept hp, fun _ _ => ⟨by simpa using hkept hp, fun _ => hro⟩⟩
  | unknown => exact ⟨rfl, fun _ => h.sub_tok, fun _ _ => ⟨h.sub, h.ro⟩⟩
  | saved => exact ⟨rfl, fun _ => h.sub_tok, fun _ _ => ⟨h.sub, h.ro⟩⟩
  | saveErr => exact .of_err (by simp) rfl
  | ambiguous => exact .of_err (by simp) rfl

theorem drain_ok (ps : List Pair) (s : PState) (d1 : List Str) (h : BInv s d1) : BOk s.tok d1 (drain ext s ps) := by
  induction ps generalizing s with
  | nil => exact h.ok.withPending []
  | cons p ps ih =>
    have h1 := procPair_pending_ok ext s p ps d1 h
    rw [drain_cons]
    exact byCtx_ind (Q := BOk s.tok d1) (fun _ => h1)
      (fun he hc => (ih _ (h1.binv he (by rw [hc]; simp))).cast h1.tok)
      (fun _ _ _ _ => h1.withPending ps) (fun _ _ => h1.withPending []) (fun _ _ => h1.withPending [])

/-- what holds after the tokens `done`: conservation itself (`sub`); while pairs of a token are pending, `done` splits
at that token and the token's `BInv` holds (`bundle`); pairs stay pending only behind an open occurrence (`pend`) -/
structure Inv (s : PState) (done : List Str) : Prop where
  sub : s.err = none → s.rem.Sublist done
  bundle : s.err = none → s.pending ≠ [] → ∃ d1 d2, done = d1 ++ s.tok :: d2 ∧ BInv s d1
  pend : s.err = none → s.pending ≠ [] → ∃ o i, s.ctx = .collecting o i

theorem Inv.of_nopending {s : PState} {done : List Str} (hs : s.err = none → s.rem.Sublist done)
    (hp : s.pending = []) : Inv s done :=
  ⟨hs, fun _ h => absurd hp h, fun _ h => absurd hp h⟩

theorem Inv.of_err {s : PState} {done : List Str} (h : s.err ≠ none) : Inv s done :=
  ⟨fun he => absurd he h, fun he => absurd he h, fun he => absurd he h⟩

theorem BOk.inv {T : Str} {s' : PState} {d1 d2 : List Str} (h : BOk T d1 s')
    (hcoll : s'.err = none → s'.pending ≠ [] → ∃ o i, s'.ctx = .collecting o i) :
    Inv s' (d1 ++ T :: d2) := by
  refine ⟨fun he => (h.sub he).trans (by simp), fun he hp => ⟨d1, d2, by rw [h.tok], h.binv he ?_⟩, hcoll⟩
  obtain ⟨o, i, hc⟩ := hcoll he hp
  simp [hc]

theorem drain_pending_coll (ps : List Pair) (s : PState) :
    (drain ext s ps).err = none → (drain ext s ps).pending ≠ [] → ∃ o i, (drain ext s ps).ctx = .collecting o i := by
  induction ps generalizing s with
  | nil => intro _ hp; simp [drain] at hp
  | cons p ps ih =>
    rw [drain_cons]
    exact byCtx_ind (Q := fun r => r.err = none → r.pending ≠ [] → ∃ o i, r.ctx = .collecting o i)
      (fun herr he => absurd he herr) (fun _ _ => ih _) (fun o i _ hc _ _ => ⟨o, i, hc⟩)
      (fun _ _ _ hp => absurd rfl hp) (fun _ _ _ hp => absurd rfl hp)

theorem head_inv (s : PState) (t : Str) (done : List Str)
    (hs : s.rem.Sublist done) (hpe : s.pending = []) :
    Inv (head ext mode none s t) (done ++ [t]) := by
  have hkept : (s.rem ++ [t]).Sublist (done ++ [t]) := hs.append (List.Sublist.refl [t])
  have hdrop : s.rem.Sublist (done ++ [t]) := hs.trans (by simp)
  rw [head_eq]
  split
  · exact (drain_ok ext (isOption t mode).1 (headState s t) done ⟨by simpa [headState] using hs, by simp [headState]⟩).inv
      (d2 := []) (drain_pending_coll ext _ _)
  · rw [headOther]
    split
    · exact .of_nopending (fun _ => hdrop) hpe
    · split
      · exact .of_nopending (fun _ => hdrop) hpe
      · split
        · exact .of_nopending (fun _ => hkept) hpe
        · exact .of_nopending (fun _ => hkept) hpe

theorem afterConsume_ok (s : PState) (ps : List Pair) (d1 : List Str) (h : BInv s d1) :
    BOk s.tok d1 (afterConsume ext s ps) := by
  rw [afterConsume_eq]
  exact byCtx_ind (Q := BOk s.tok d1) (fun _ => h.ok) (fun _ _ => drain_ok ext ps s d1 h)
    (fun _ _ _ _ => h.ok.withPending ps) (fun _ _ => h.ok.withPending ps) (fun _ _ => h.ok.withPending ps)

theorem afterConsume_pending (s : PState) (ps : List Pair)
    (hctx : s.ctx = .idle ∨ ∃ o i, s.ctx = .collecting o i) :
    let r := afterConsume ext s ps
    r.err = none → r.pending ≠ [] → ∃ o i, r.ctx = .collecting o i := by
  rw [afterConsume_eq]
  exact byCtx_ind (Q := fun r => r.err = none → r.pending ≠ [] → ∃ o i, r.ctx = .collecting o i)
    (fun herr he => absurd he herr) (fun _ _ => drain_pending_coll ext ps s)
    (fun o i _ hc _ _ => ⟨o, i, hc⟩) (fun _ hc => by simp [hc] at hctx) (fun _ hc => by simp [hc] at hctx)

theorem consumed_inv (s : PState) (o i : Nat) (t : Str) (d1 d2 : List Str)
    (hc : s.ctx = .collecting o i) (hb : BInv s d1) (ps : List Pair) :
    Inv (afterConsume ext (offer ext mode s o i t).1 ps) (d1 ++ s.tok :: d2) := by
  obtain ⟨P', l, e, c, heq, hn, hcc⟩ := offer_frame ext mode s o i t
  rw [heq]
  have hctx1 : c = .idle ∨ ∃ o i, c = .collecting o i := by
    rcases hcc with h | h | ⟨i', h⟩
    · exact .inl h
    · exact .inr ⟨o, i, h.trans hc⟩
    · exact .inr ⟨o, i', h⟩
  exact (afterConsume_ok ext _ ps d1 (hb.frame P' l e c hn)).inv (afterConsume_pending ext _ ps hctx1)

theorem feedPending_inv (t : Str) (ps : List Pair) (s : PState) (d1 d2 : List Str) (h : BInv s d1) :
    Inv (feedPending ext mode none t s ps) (d1 ++ s.tok :: d2 ++ [t]) := by
  induction ps generalizing s with
  | nil =>
    simpa [feedPending] using head_inv ext mode { s with pending := [] } t (d1 ++ s.tok :: d2)
      (h.sub_tok.trans (by simp)) rfl
  | cons p ps ih =>
    have h1 := procPair_pending_ok ext s p ps d1 h
    rw [feedPending_cons]
    generalize procPair ext { s with pending := ps } p = s1 at h1 ⊢
    rw [← h1.tok]
    have stop : s1.err = none → Inv { s1.addText t with pending := [] } (d1 ++ s1.tok :: d2 ++ [t]) := fun he =>
      .of_nopending (fun _ => by
        have := (h1.sub he).append (List.Sublist.refl [t])
        rw [← h1.tok] at this; exact this.trans (by simp)) rfl
    refine byCtx_ind (Q := fun r => Inv r (d1 ++ s1.tok :: d2 ++ [t])) (fun he => .of_err he)
      (fun he hc => ih _ (h1.binv he (by rw [hc]; simp))) (fun o i he hc => ?_)
      (fun he _ => stop he) (fun he _ => stop he)
    have hb1 := h1.binv he (by rw [hc]; simp)
    rcases offer_cases ext mode s1 o i t with e | e <;> rw [e]
    · simpa using consumed_inv ext mode s1 o i t d1 (d2 ++ [t]) hc hb1 ps
    · exact ih _ ⟨hb1.sub, hb1.ro⟩

theorem Inv.mono {s : PState} {done : List Str} (h : Inv s done) (t : Str) : Inv s (done ++ [t]) := by
  refine ⟨fun he => (h.sub he).trans (by simp), fun he hp => ?_, h.pend⟩
  obtain ⟨d1, d2, hd, hb⟩ := h.bundle he hp
  exact ⟨d1, d2 ++ [t], by rw [hd]; simp, hb⟩

/-- one token preserves the invariant -/
theorem step_inv (s : PState) (t : Str) (done : List Str) (h : Inv s done) :
    Inv (step ext mode s t) (done ++ [t]) := by
  unfold step
  rw [stepG_eq]
  -- pairs are pending only while an occurrence is collecting
  have hpe : s.err = none → (∀ o i, s.ctx ≠ .collecting o i) → s.pending = [] := fun he hn =>
    Classical.byContradiction fun hp => by obtain ⟨o, i, hc⟩ := h.pend he hp; exact hn o i hc
  have hsub := h.sub
  refine byCtx_ind (Q := fun r => Inv r (done ++ [t])) (fun _ => h.mono t)
    (fun he hc => head_inv ext mode s t done (hsub he) (hpe he fun o i x => by simp [x] at hc)) (fun o i he hc => ?_)
    (fun he hc => .of_nopending (fun _ => (hsub he).append (.refl [t])) (hpe he fun o i x => by simp [x] at hc))
    (fun _ _ => h.mono t)
  -- `Inv.bundle` speaks only of a state with pending pairs: the token they come from and its `BInv` exist only then
  by_cases hpend : s.pending = []
  · -- a single occurrence, nothing pending: consumed, or handed on to the head position
    rcases offer_cases ext mode s o i t with e | e <;> rw [e]
    · obtain ⟨P', l, e, c, heq, -, -⟩ := offer_frame ext mode s o i t
      rw [heq]
      show Inv (afterConsume ext _ s.pending) _
      rw [hpend, afterConsume_nil ext _ rfl]
      exact .of_nopending (fun _ => (hsub he).trans (by simp)) rfl
    · show Inv (feedPending ext mode none t _ s.pending) _
      rw [hpend]
      simpa [feedPending, hpend] using head_inv ext mode { s with ctx := .idle } t done (hsub he) hpend
  · obtain ⟨d1, d2, hd, hb⟩ := h.bundle he hpend
    rw [hd]
    rcases offer_cases ext mode s o i t with e | e <;> rw [e]
    · simpa using consumed_inv ext mode s o i t d1 (d2 ++ [t]) hc hb _
    · exact feedPending_inv ext mode t _ _ d1 d2 ⟨hb.sub, hb.ro⟩

theorem foldl_inv (ts : List Str) (s : PState) (done : List Str) (h : Inv s done) :
    Inv (ts.foldl (step ext mode) s) (done ++ ts) := by
  induction ts generalizing s done with
  | nil => simpa using h
  | cons t ts ih =>
    simp only [List.foldl]
    have := ih _ _ (step_inv ext mode s t done h)
    simpa using this

theorem run_inv (P : Prog) (args : List Str) : Inv (run ext mode P args) args := by
  simpa [run] using foldl_inv ext mode args (initState P) [] (.of_nopending (fun _ => .slnil) rfl)

theorem finishDrain_ok (ps : List Pair) (s : PState) (d1 : List Str) (h : BInv s d1) :
    BOk s.tok d1 (finishDrain ext s ps) := by
  induction ps generalizing s with
  | nil => exact h.ok.withPending []
  | cons p ps ih =>
    have h1 := procPair_pending_ok ext s p ps d1 h
    rw [finishDrain_cons]
    refine byCtx_ind (Q := BOk s.tok d1) (fun _ => h1)
      (fun he hc => (ih _ (h1.binv he (by rw [hc]; simp))).cast h1.tok) (fun o i he hc => ?_)
      (fun _ _ => h1.withPending []) (fun _ _ => h1.withPending [])
    have hb1 := h1.binv he (by rw [hc]; simp)
    split
    · exact .of_err (by simp [missingArg]) h1.tok
    · exact (ih { procPair ext { s with pending := ps } p with ctx := .idle } ⟨hb1.sub, hb1.ro⟩).cast h1.tok

theorem finish_rem_sublist (s : PState) (done : List Str) (hinv : Inv s done)
    (he : (finish ext s).err = none) : (finish ext s).rem.Sublist done := by
  rw [finish_eq] at he ⊢
  revert he
  have hsub := hinv.sub
  refine byCtx_ind (Q := fun r => r.err = none → r.rem.Sublist done) (fun h he => absurd he h)
    (fun h _ _ => hsub h) (fun o i h _ => ?_) (fun h _ _ => hsub h) (fun h _ _ => hsub h)
  split
  · intro he; cases he
  · by_cases hpend : s.pending = []
    · rw [hpend]; exact fun _ => hsub h
    · obtain ⟨d1, d2, hd, hb⟩ := hinv.bundle h hpend
      intro he
      rw [hd]
      exact ((finishDrain_ok ext s.pending { s with ctx := .idle } d1 ⟨hb.sub, hb.ro⟩).sub he).trans (by simp)

/-- **Conservation.** Whatever `parseCLIArgs` returns as positional text is a positional sublist of
the arguments: nothing invented, altered, reordered or duplicated. -/
theorem parseArgs_rem_sublist (P : Prog) (args : List Str)
    (he : (parseArgs ext mode P args).err = none) : (parseArgs ext mode P args).rem.Sublist args :=
  finish_rem_sublist ext _ args (run_inv ext mode P args) he

end GoModel
