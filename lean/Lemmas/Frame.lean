import Lemmas.Moves
import Lemmas.SaveVal
import Lemmas.Prog
/-! What the argument loop leaves alone, read off its moves (`Lemmas/Moves.lean`): the remaining list and the
unknown-option log only grow; the node list and the number of options stay; so does the declared part of every option
record; outside completion mode the context never becomes `done`. -/
namespace GoModel

variable (ext : Ext) (mode : Mode) {L : Pair → Prop} {comp : Option Str}

theorem Moves.rem_prefix {ext : Ext} {s s' : PState} (h : Moves ext L comp s s') : s.rem <+: s'.rem :=
  h.lift (R := fun a b => a.rem <+: b.rem) (fun _ => List.prefix_refl _) List.IsPrefix.trans fun m => by
    cases m <;> first | exact List.prefix_refl _ | exact List.prefix_append _ _

theorem Moves.unk_prefix {ext : Ext} {s s' : PState} (h : Moves ext L comp s s') : s.unk <+: s'.unk :=
  h.lift (R := fun a b => a.unk <+: b.unk) (fun _ => List.prefix_refl _) List.IsPrefix.trans fun m => by
    cases m <;> first | exact List.prefix_refl _ | exact List.prefix_append _ _

/-- what one token appends to the remaining list stays at its place until the end of the parse -/
theorem parseArgs_rem_kept (P : Prog) (pre post : List Str) (t x : Str)
    (h : (step ext mode (run ext mode P pre) t).rem = (run ext mode P pre).rem ++ [x]) :
    ∃ more, (parseArgs ext mode P (pre ++ t :: post)).rem = (run ext mode P pre).rem ++ x :: more := by
  obtain ⟨m, hm⟩ := (rest_moves' ext mode post (step ext mode (run ext mode P pre) t)).rem_prefix
  exact ⟨m, by rw [parseArgs_cons, ← hm, h]; simp⟩

/-- … and so does what it appends to the unknown-option log -/
theorem parseArgs_unk_kept (P : Prog) (pre post : List Str) (t : Str) (x : Str × UMode)
    (h : (step ext mode (run ext mode P pre) t).unk = (run ext mode P pre).unk ++ [x]) :
    ∃ more, (parseArgs ext mode P (pre ++ t :: post)).unk = (run ext mode P pre).unk ++ x :: more := by
  obtain ⟨m, hm⟩ := (rest_moves' ext mode post (step ext mode (run ext mode P pre) t)).unk_prefix
  exact ⟨m, by rw [parseArgs_cons, ← hm, h]; simp⟩

def SameShape (A B : Prog) : Prop := A.nodes = B.nodes ∧ A.opts.length = B.opts.length

theorem SameShape.refl (A : Prog) : SameShape A A := ⟨rfl, rfl⟩
theorem SameShape.trans {A B C : Prog} (h1 : SameShape A B) (h2 : SameShape B C) : SameShape A C :=
  ⟨h1.1.trans h2.1, h1.2.trans h2.2⟩
theorem SameShape.node {A B : Prog} (h : SameShape A B) (n : Nat) : A.node n = B.node n := by
  unfold Prog.node; rw [h.1]

theorem setOpt_shape (P : Prog) (o : Nat) (x : Opt) : SameShape (P.setOpt o x) P :=
  ⟨rfl, by simp [Prog.setOpt]⟩

theorem Moves.shape {ext : Ext} {s s' : PState} (h : Moves ext L comp s s') : SameShape s'.P s.P :=
  h.lift (R := fun a b => SameShape b.P a.P) (fun _ => .refl _) (fun h1 h2 => h2.trans h1) fun m => by
    cases m <;> first | exact .refl _ | exact setOpt_shape _ _ _

theorem run_shape (P : Prog) (args : List Str) : SameShape (run ext mode P args).P P :=
  (foldl_moves' ext mode args _).shape

/-! ## The declared part of an option record

Parsing only ever changes the value, `Called`, `CalledAs` and the copy of the `MapKeysToLower` flag: kind,
bounds, valid values, aliases, default text, environment variable … are the same after any argument list. -/

def Opt.static (o : Opt) : Opt := { o with value := .b false, called := false, usedAlias := [], lowerKeys := false }

/-- a match changes `called`, `usedAlias` and `lowerKeys` only (stated once: as a definitional unfolding at the place of
use it is dear to check) -/
theorem matched_static (s : PState) (oid : Nat) (key : Str) : (matched s oid key).static = (s.P.opt oid).static := by
  rw [matched, Opt.static, Opt.static]

theorem static_max {a c : Opt} (h : a.static = c.static) : a.max = c.max := by have := congrArg Opt.max h; exact this
theorem static_min {a c : Opt} (h : a.static = c.static) : a.min = c.min := by have := congrArg Opt.min h; exact this
theorem static_kind {a c : Opt} (h : a.static = c.static) : a.kind = c.kind := by have := congrArg Opt.kind h; exact this
theorem static_validValues {a c : Opt} (h : a.static = c.static) : a.validValues = c.validValues := by
  have := congrArg Opt.validValues h; exact this

def StaticEq (A B : Prog) : Prop := ∀ oid, (A.opt oid).static = (B.opt oid).static

theorem StaticEq.refl (A : Prog) : StaticEq A A := fun _ => rfl
theorem StaticEq.trans {A B C : Prog} (h1 : StaticEq A B) (h2 : StaticEq B C) : StaticEq A C :=
  fun o => (h1 o).trans (h2 o)

theorem save_static (lower : Bool) (o o' : Opt) (args : List Str) (h : save ext lower o args = .ok o') :
    o'.static = o.static := by
  rw [save_ok ext lower h]; rfl

theorem setOpt_static (P : Prog) (o : Nat) (x : Opt) (hx : x.static = (P.opt o).static) :
    StaticEq (P.setOpt o x) P := by
  intro o2
  rw [opt_setOpt]
  split
  · rename_i h; rw [h.1]; exact hx
  · rfl

theorem Stored.static {ext : Ext} {s : PState} {oid : Nat} {o' : Opt} (h : Stored ext s oid o') :
    o'.static = (s.P.opt oid).static := by
  obtain ⟨o, args, ho, hs⟩ := h
  have h1 : o.static = (s.P.opt oid).static := by
    rcases ho with rfl | ⟨key, rfl⟩ <;> rfl
  rcases hs with rfl | hs
  · exact h1
  · exact (save_static ext _ _ _ _ hs).trans h1

theorem Moves.static {ext : Ext} {s s' : PState} (h : Moves ext L comp s s') : StaticEq s'.P s.P :=
  h.lift (R := fun a b => StaticEq b.P a.P) (fun _ => .refl _) (fun h1 h2 => h2.trans h1) fun m => by
    cases m with
    | store oid o' _ ho => exact setOpt_static _ _ _ ho.static
    | _ => exact .refl _

theorem run_static_eq (P : Prog) (args : List Str) : StaticEq (run ext mode P args).P P :=
  (foldl_moves' ext mode args _).static

theorem run_static (P : Prog) (args : List Str) (oid : Nat) :
    ((run ext mode P args).P.opt oid).kind = (P.opt oid).kind ∧
    ((run ext mode P args).P.opt oid).validValues = (P.opt oid).validValues ∧
    ((run ext mode P args).P.opt oid).max = (P.opt oid).max :=
  have h := run_static_eq ext mode P args oid
  ⟨static_kind h, static_validValues h, static_max h⟩

theorem Moves.not_done {ext : Ext} {s s' : PState} (h : Moves ext L none s s') (hs : s.ctx ≠ .done) : s'.ctx ≠ .done := by
  induction h with
  | refl => exact hs
  | cons m _ ih =>
    apply ih
    cases m with
    | ctx c hd _ => exact hd
    | complete _ hc => cases hc
    | _ => exact hs

end GoModel
