import Lemmas.Dispatch
/-!
# What the argument loop can do to its state

`Move` lists the single state changes the loop is made of, each with where it comes from; `Moves` is its
reflexive-transitive closure.  Every operation of the loop — `procPair`, `offer`, `drain`, `head`,
`feedPending`, `stepG`, the fold, `finish` — is a sequence of moves (`stepG_moves`, `foldl_moves`,
`rest_moves`, …).  A property that every single move preserves then holds across the whole loop by
induction on `Moves` (`Moves.lift` for a reflexive, transitive relation): "X only grows", "X never
changes", "an option nothing addresses keeps its record" are proved by looking at the moves, not by
following the recursion once more.
-/
namespace GoModel

variable (ext : Ext) (mode : Mode)

/-- a pair allowed by `L` resolves to (a key of) option `oid` at the current node -/
def Addressed (L : Pair → Prop) (s : PState) (oid : Nat) : Prop :=
  ∃ p key, L p ∧ resolve (s.P.node s.cur) p.opt = [key] ∧ lookup key (s.P.node s.cur).opts = some oid

/-- the only records ever stored for option `oid`: its record, or its record marked as matched,
after a successful typed `Save` (or as it is, when the `Save` of a matched record failed) -/
def Stored (s : PState) (oid : Nat) (o' : Opt) : Prop :=
  ∃ o args, (o = s.P.opt oid ∨ ∃ key, o = matched s oid key) ∧
    (o' = o ∨ save ext (s.P.node 0).mapKeysToLower o args = .ok o')

/-- One state change of the loop.  `L` bounds the pairs that may be processed (say, those some token of the
command line splits into), `comp` is the completion target as in `stepG`.  An occurrence is opened only for an
option a pair addresses, a record is stored only for such an option or for the one that is collecting. -/
inductive Move (L : Pair → Prop) (comp : Option Str) : PState → PState → Prop
  | book (s : PState) (tok lastTok : Str) (passed : Bool) :
      Move L comp s { s with tok := tok, lastTok := lastTok, passed := passed }
  | pending (s : PState) (ps : List Pair) (h : ∀ p ∈ ps, L p) : Move L comp s { s with pending := ps }
  | ctx (s : PState) (c : Ctx) (hd : c ≠ .done)
      (ho : ∀ o i, c = .collecting o i → Addressed L s o ∨ ∃ i', s.ctx = .collecting o i') :
      Move L comp s { s with ctx := c }
  | fail (s : PState) (e : PErr) : Move L comp s { s with err := some e }
  | text (s : PState) (t : Str) : Move L comp s (s.addText t)
  | unknown (s : PState) (x : Str × UMode) : Move L comp s { s with unk := s.unk ++ [x] }
  | cmd (s : PState) (t : Str) (c : Nat) (h : lookup t (s.P.node s.cur).cmds = some c) :
      Move L comp s { s with cur := c, textStart := s.rem.length }
  | complete (s : PState) (cs : List Str) (h : comp.isSome) :
      Move L comp s { s with comps := some cs, ctx := .done }
  | store (s : PState) (oid : Nat) (o' : Opt)
      (ha : Addressed L s oid ∨ ∃ i, s.ctx = .collecting oid i) (ho : Stored ext s oid o') :
      Move L comp s { s with P := s.P.setOpt oid o' }

inductive Moves (L : Pair → Prop) (comp : Option Str) : PState → PState → Prop
  | refl (s : PState) : Moves L comp s s
  | cons {a b c : PState} : Move ext L comp a b → Moves L comp b c → Moves L comp a c

variable {ext mode} {L : Pair → Prop} {comp : Option Str}

theorem Moves.trans {a b c : PState} (h1 : Moves ext L comp a b) (h2 : Moves ext L comp b c) :
    Moves ext L comp a c := by
  induction h1 with
  | refl => exact h2
  | cons m _ ih => exact .cons m (ih h2)

theorem Moves.one {a b : PState} (h : Move ext L comp a b) : Moves ext L comp a b := .cons h (.refl _)

theorem Moves.lift {R : PState → PState → Prop} (refl : ∀ s, R s s)
    (trans : ∀ {a b c}, R a b → R b c → R a c) (one : ∀ {a b}, Move ext L comp a b → R a b)
    {s s' : PState} (h : Moves ext L comp s s') : R s s' := by
  induction h with
  | refl => exact refl _
  | cons m _ ih => exact trans (one m) ih

theorem Moves.setPending (s : PState) (ps : List Pair) (h : ∀ p ∈ ps, L p) :
    Moves ext L comp s { s with pending := ps } := .one (.pending s ps h)

theorem Moves.setCtx (s : PState) (c : Ctx) (hd : c ≠ .done) (hc : ∀ o i, c ≠ .collecting o i) :
    Moves ext L comp s { s with ctx := c } := .one (.ctx s c hd fun o i h => absurd h (hc o i))

theorem Moves.pending_ok {s s' : PState} (h : Moves ext L comp s s') (hp : ∀ p ∈ s.pending, L p) :
    ∀ p ∈ s'.pending, L p := by
  induction h with
  | refl => exact hp
  | cons m _ ih => exact ih (by cases m <;> assumption)

variable (ext mode)

theorem procPair_moves (s : PState) (p : Pair) (hp : L p) : Moves ext L comp s (procPair ext s p) := by
  have hsp := procPair_spec ext s p
  generalize procPair ext s p = r at hsp ⊢
  cases hsp with
  | roStop =>
    exact .cons (.text s s.tok) (.cons (.ctx _ .stopped (by simp) (by simp)) (.setPending _ [] (by simp)))
  | unknownKept =>
    exact .cons (.unknown s _) (.cons (.text _ s.tok) (.one (.book _ s.tok s.lastTok true)))
  | unknown => exact .one (.unknown s _)
  | saveErr key oid _ hr hl =>
    exact .cons (.store s oid _ (.inl ⟨p, key, hp, hr, hl⟩) ⟨_, [], .inr ⟨key, rfl⟩, .inl rfl⟩) (.one (.fail _ _))
  | saved key oid o' hr hl hs =>
    have ha : Addressed L s oid := ⟨p, key, hp, hr, hl⟩
    have h1 := Move.store (comp := comp) s oid o' (.inl ha) ⟨_, _, .inr ⟨key, rfl⟩, .inr hs⟩
    split
    · exact .cons h1 (.one (.ctx _ _ (by simp) fun o i h => by cases h; exact .inl ha))
    · exact .one h1
  | ambiguous => exact .one (.fail _ _)

theorem offer_moves (s : PState) (o i : Nat) (t : Str) (hc : s.ctx = .collecting o i) :
    Moves ext L comp s (offer ext mode s o i t).1 := by
  have hsp := offer_spec ext mode s o i t
  generalize offer ext mode s o i t = r at hsp ⊢
  cases hsp with
  | dashArg => exact .one (.fail _ _)
  | refused => exact .setCtx _ _ (by simp) (by simp)
  | saveErr => exact .cons (.fail s _) (.one (.book _ s.tok t s.passed))
  | saved o' hs =>
    refine .cons (.store s o o' (.inr ⟨i, hc⟩) ⟨_, _, .inl rfl, .inr hs⟩)
      (.cons (.book _ s.tok t s.passed) (.one (.ctx _ _ ?_ fun o2 i2 h => ?_)))
    · split <;> simp
    · split at h <;> cases h; exact .inr ⟨i, hc⟩

theorem procPair_pending_moves (s : PState) (p : Pair) (ps : List Pair) (hps : ∀ q ∈ p :: ps, L q) :
    Moves ext L comp s (procPair ext { s with pending := ps } p) :=
  (Moves.setPending s ps fun q hq => hps q (List.mem_cons_of_mem _ hq)).trans
    (procPair_moves ext _ p (hps p List.mem_cons_self))

theorem drain_moves (ps : List Pair) (s : PState) (hps : ∀ p ∈ ps, L p) : Moves ext L comp s (drain ext s ps) := by
  induction ps generalizing s with
  | nil => exact .setPending s [] hps
  | cons p ps ih =>
    have hps' : ∀ q ∈ ps, L q := fun q hq => hps q (List.mem_cons_of_mem _ hq)
    have h1 := procPair_pending_moves (comp := comp) ext s p ps hps
    rw [drain_cons]
    exact byCtx_ind (fun _ => h1) (fun _ _ => h1.trans (ih _ hps')) (fun _ _ _ _ => h1.trans (.setPending _ ps hps'))
      (fun _ _ => h1.trans (.setPending _ [] (by simp))) (fun _ _ => h1.trans (.setPending _ [] (by simp)))

theorem afterConsume_moves (s : PState) (ps : List Pair) (hps : ∀ p ∈ ps, L p) :
    Moves ext L comp s (afterConsume ext s ps) := by
  rw [afterConsume_eq]
  exact byCtx_ind (fun _ => .refl _) (fun _ _ => drain_moves ext ps s hps) (fun _ _ _ _ => .setPending s ps hps)
    (fun _ _ => .setPending s ps hps) (fun _ _ => .setPending s ps hps)

theorem head_moves (s : PState) (t : Str) (ht : ∀ p ∈ (isOption t mode).1, L p) :
    Moves ext L comp s (head ext mode comp s t) := by
  rw [head_eq]
  split
  · exact .cons (.book s t t false) (drain_moves ext _ _ ht)
  · unfold headOther
    split
    · exact .one (.complete s _ rfl)
    · split
      · exact .setCtx _ _ (by simp) (by simp)
      · split
        · exact .one (.cmd s t _ ‹_›)
        · split
          · exact .cons (.text s t) (.setCtx _ _ (by simp) (by simp))
          · exact .one (.text s t)

theorem feedPending_moves (t : Str) (ht : ∀ p ∈ (isOption t mode).1, L p) (ps : List Pair) (s : PState)
    (hps : ∀ p ∈ ps, L p) : Moves ext L comp s (feedPending ext mode comp t s ps) := by
  induction ps generalizing s with
  | nil => exact (Moves.setPending s [] hps).trans (head_moves ext mode _ t ht)
  | cons p ps ih =>
    have hps' : ∀ q ∈ ps, L q := fun q hq => hps q (List.mem_cons_of_mem _ hq)
    have h1 := procPair_pending_moves (comp := comp) ext s p ps hps
    have hstop := h1.trans (.cons (.text _ t) (.setPending _ [] (by simp)))
    rw [feedPending_cons]
    refine byCtx_ind (fun _ => h1) (fun _ _ => h1.trans (ih _ hps')) (fun o i _ hc => ?_) (fun _ _ => hstop)
      (fun _ _ => hstop)
    have h2 := h1.trans (offer_moves ext mode _ o i t hc)
    split
    · rename_i heq; rw [heq] at h2; exact h2.trans (afterConsume_moves ext _ ps hps')
    · rename_i heq; rw [heq] at h2; exact h2.trans (ih _ hps')

theorem stepG_moves (s : PState) (t : Str) (hp : ∀ p ∈ s.pending, L p) (ht : ∀ p ∈ (isOption t mode).1, L p) :
    Moves ext L comp s (stepG ext mode comp s t) := by
  rw [stepG_eq]
  refine byCtx_ind (fun _ => .refl _) (fun _ _ => head_moves ext mode s t ht) (fun o i _ hc => ?_)
    (fun _ _ => .one (.text s t)) (fun _ _ => .refl _)
  have h2 : Moves ext L comp s (offer ext mode s o i t).1 := offer_moves ext mode s o i t hc
  have hp2 := h2.pending_ok hp
  split
  · rename_i heq; rw [heq] at h2 hp2; exact h2.trans (afterConsume_moves ext _ _ hp2)
  · rename_i heq; rw [heq] at h2 hp2; exact h2.trans (feedPending_moves ext mode t ht _ _ hp2)

theorem foldl_moves (ts : List Str) (s : PState) (hp : ∀ p ∈ s.pending, L p)
    (ht : ∀ t ∈ ts, ∀ p ∈ (isOption t mode).1, L p) :
    Moves ext L none s (ts.foldl (step ext mode) s) := by
  induction ts generalizing s with
  | nil => exact .refl _
  | cons t ts ih =>
    have h1 : Moves ext L none s (step ext mode s t) := stepG_moves ext mode s t hp (ht t List.mem_cons_self)
    exact h1.trans (ih _ (h1.pending_ok hp) fun x hx => ht x (List.mem_cons_of_mem _ hx))

theorem finishDrain_moves (ps : List Pair) (s : PState) (hps : ∀ p ∈ ps, L p) :
    Moves ext L comp s (finishDrain ext s ps) := by
  induction ps generalizing s with
  | nil => exact .setPending s [] hps
  | cons p ps ih =>
    have hps' : ∀ q ∈ ps, L q := fun q hq => hps q (List.mem_cons_of_mem _ hq)
    have h1 := procPair_pending_moves (comp := comp) ext s p ps hps
    rw [finishDrain_cons]
    refine byCtx_ind (fun _ => h1) (fun _ _ => h1.trans (ih _ hps')) (fun o i _ _ => ?_)
      (fun _ _ => h1.trans (.setPending _ [] (by simp))) (fun _ _ => h1.trans (.setPending _ [] (by simp)))
    split
    · exact h1.trans (.one (.fail _ _))
    · exact (h1.trans (.setCtx _ .idle (by simp) (by simp))).trans (ih _ hps')

theorem finish_moves (s : PState) (hp : ∀ p ∈ s.pending, L p) : Moves ext L comp s (finish ext s) := by
  rw [finish_eq]
  refine byCtx_ind (fun _ => .refl _) (fun _ _ => .refl _) (fun o i _ _ => ?_) (fun _ _ => .refl _) (fun _ _ => .refl _)
  split
  · exact .one (.fail _ _)
  · exact (Moves.setCtx s .idle (by simp) (by simp)).trans (finishDrain_moves ext _ _ hp)

theorem rest_moves (ts : List Str) (s : PState) (hp : ∀ p ∈ s.pending, L p)
    (ht : ∀ t ∈ ts, ∀ p ∈ (isOption t mode).1, L p) :
    Moves ext L none s (finish ext (ts.foldl (step ext mode) s)) :=
  have h1 := foldl_moves ext mode ts s hp ht
  h1.trans (finish_moves ext _ (h1.pending_ok hp))

/-! When it does not matter which pairs are processed: `L := fun _ => True`. -/

theorem step_moves' (s : PState) (t : Str) : Moves ext (fun _ => True) none s (step ext mode s t) :=
  stepG_moves ext mode s t (fun _ _ => trivial) fun _ _ => trivial

theorem foldl_moves' (ts : List Str) (s : PState) :
    Moves ext (fun _ => True) none s (ts.foldl (step ext mode) s) :=
  foldl_moves ext mode ts s (fun _ _ => trivial) fun _ _ _ _ => trivial

theorem rest_moves' (ts : List Str) (s : PState) :
    Moves ext (fun _ => True) none s (finish ext (ts.foldl (step ext mode) s)) :=
  rest_moves ext mode ts s (fun _ _ => trivial) fun _ _ _ _ => trivial

end GoModel
