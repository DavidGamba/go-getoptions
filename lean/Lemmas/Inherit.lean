import Lemmas.Tree
import Lemmas.Lookup
/-! `NewCommand` hands every key of the parent's table down to the new command (C10: "options
inherited from its ancestors"). -/
namespace GoModel

theorem copyStepFn_copy (pn : Node) (A : Prog) (c : Nat)
    (h : ((A.node c).name == pn.helpName || (A.node c).skipCopy) = false) :
    copyStepFn pn A c =
      A.setNode c { A.node c with opts := pn.opts.foldl (fun acc kv => insertKV kv.1 kv.2 acc) (A.node c).opts } := by
  unfold copyStepFn
  simp only [h, Bool.false_eq_true, ↓reduceIte]

theorem copyStep_fold_other (pn : Node) (ks : List Nat) (A : Prog) (n : Nat) (h : n ∉ ks) :
    (ks.foldl (copyStepFn pn) A).node n = A.node n :=
  copyStep_fold_induct (I := fun Q => Q.node n = A.node n) pn ks
    (fun Q c hc hQ => by
      have hn : ¬ (n = c ∧ c < Q.nodes.length) := fun e => h (e.1 ▸ hc)
      rw [node_setNode, if_neg hn]; exact hQ) A rfl

theorem copyStep_fold_shells (pn : Node) (ks : List Nat) (A : Prog) :
    (ks.foldl (copyStepFn pn) A).shells = A.shells :=
  copyStep_fold_induct (I := fun Q => Q.shells = A.shells) pn ks
    (fun Q c _ hQ => (shells_setNode_opts Q c _).trans hQ) A rfl

/-- a loop whose steps change option tables only leaves a node alone if every step does, from any program with
the same shells (every such `Q'`, because the loop's intermediate programs are not `Q`) -/
theorem fold_untouched (F : Prog → Nat → Prog) (n : Nat) (hsh : ∀ Q c, (F Q c).shells = Q.shells)
    (ks : List Nat) (Q : Prog) (hun : ∀ Q', Q'.shells = Q.shells → ∀ c ∈ ks, (F Q' c).node n = Q'.node n) :
    (ks.foldl F Q).node n = Q.node n := by
  induction ks generalizing Q with
  | nil => rfl
  | cons k ks ih =>
    rw [List.foldl_cons, ih (F Q k) fun Q' e c hc => hun Q' (e.trans (hsh Q k)) c (List.mem_cons_of_mem k hc)]
    exact hun Q rfl k List.mem_cons_self

/-- with children above their parents, the copy from `a` only writes to children of nodes from `a` upwards -/
theorem copyOpts_untouched (fuel : Nat) (P : Prog) (a n : Nat) (ho : ∀ x c, c ∈ kids P x → x < c)
    (h : ∀ x, a ≤ x → n ∉ kids P x) : (copyOpts fuel P a).node n = P.node n := by
  induction fuel generalizing P a with
  | zero => rfl
  | succ fuel ih =>
    have hsh := copyStep_fold_shells (P.node a) (kids P a) P
    show ((kids P a).foldl (fun A c => copyOpts fuel A c) ((kids P a).foldl (copyStepFn (P.node a)) P)).node n = P.node n
    rw [fold_untouched (fun A c => copyOpts fuel A c) n (copyOpts_shells fuel),
      copyStep_fold_other _ _ _ _ (h a (Nat.le_refl a))]
    intro Q' e c hc
    have hk : kids Q' = kids P := funext (kids_of_shells (e.trans hsh))
    exact ih Q' c (hk ▸ ho) fun x hx => hk ▸ h x (Nat.le_of_lt (Nat.lt_of_lt_of_le (ho a c hc) hx))

/-- **The table of a new command is its parent's table**: after `NewCommand` (node appended, name
registered, `copyOptionsFromParent` run from the parent), every key resolves in the new command
exactly as in the parent — same key, same option id, hence the same cell that parsing writes. -/
theorem new_command_table (P : Prog) (p : Nat) (nd : Node) (hp : p < P.nodes.length) (h : TreeWF P)
    (hnc : nd.cmds = []) (hno : nd.opts = []) (hsk : nd.skipCopy = false)
    (hname : (nd.name == (P.node p).helpName) = false)
    (hnd : ((P.node p).opts.map (·.1)).Nodup) (k : Str) :
    lookup k ((copyOpts (attach P p nd).nodes.length (attach P p nd) p).node P.nodes.length).opts =
      lookup k (P.node p).opts := by
  have hwf := attach_wf P p nd hp hnc h
  have hNp : ¬ P.nodes.length = p := Nat.ne_of_gt hp
  have hpn : (attach P p nd).node p = { P.node p with cmds := (P.node p).cmds ++ [(nd.name, P.nodes.length)] } := by
    rw [attach_node P p nd hp, if_pos rfl]
  have hN : (attach P p nd).node P.nodes.length = nd := by
    rw [attach_node P p nd hp, if_neg hNp, if_neg (Nat.lt_irrefl _), if_pos rfl]
  have hkp : kids (attach P p nd) p = kids P p ++ [P.nodes.length] := by rw [attach_kids P p nd hp hnc, if_pos rfl]
  -- the new node is a child of `p` only
  have honly : ∀ x, p < x → P.nodes.length ∉ kids (attach P p nd) x := by
    intro x hx
    rw [attach_kids P p nd hp hnc, if_neg (Nat.ne_of_gt hx)]
    split
    · exact fun e => Nat.lt_irrefl _ (h.bounded x _ e)
    · exact List.not_mem_nil
  rw [attach_length, copyOpts_succ, show ((attach P p nd).node p).cmds.map (·.2) = _ from hkp]
  -- the second loop runs from the children of `p`, which lie above `p`: it leaves the new node alone
  rw [fold_untouched _ _ (copyOpts_shells _) _ _ fun Q' e c hc => by
    have hk : kids Q' = kids (attach P p nd) := funext (kids_of_shells (e.trans (copyStep_fold_shells _ _ _)))
    exact copyOpts_untouched _ Q' c _ (hk ▸ hwf.ordered) fun x hx =>
      hk ▸ honly x (Nat.lt_of_lt_of_le (hwf.ordered p c (hkp ▸ hc)) hx)]
  -- the first loop reaches the new node last, still as it was attached, and merges the table of `p` into its empty one
  rw [List.foldl_append, List.foldl_cons, List.foldl_nil]
  have hS0 := copyStep_fold_other ((attach P p nd).node p) (kids P p) (attach P p nd) P.nodes.length
    fun e => Nat.lt_irrefl _ (h.bounded p _ e)
  have hlen : P.nodes.length < ((kids P p).foldl (copyStepFn ((attach P p nd).node p)) (attach P p nd)).nodes.length := by
    rw [length_of_nodes_map Node.shell (copyStep_fold_shells _ _ _), attach_length]; exact Nat.lt_succ_self _
  rw [copyStepFn_copy _ _ _ (by rw [hS0, hN, hpn]; simp [hname, hsk]), node_setNode, if_pos ⟨rfl, hlen⟩, hS0, hN, hpn, hno,
    lookup_foldl_insertKV _ _ _ hnd]
  cases lookup k (P.node p).opts <;> rfl

end GoModel
