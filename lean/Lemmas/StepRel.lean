import Lemmas.Dispatch
/-! Two runs of the argument loop side by side.  A relation that the state changes of the loop respect (`StepRel`; the
changes are those `Lemmas/Dispatch.lean` reduces the loop to) is respected by `drain`, `afterConsume`, `head`,
`feedPending`, `stepG`, the fold, `finishDrain`, `finish`, `parseArgs` and `completeArgs`.  With `esc` the left run may
also stop by itself (`Upto`): that is how "until the parser stops" is said.  The fields of `StepRel` are what has to
be shown of a relation, the theorems of its namespace what follows; they bear the names of the loop functions, which is why
the model's are written `GoModel.offer` … below. -/
namespace GoModel

/-- `a` and `a'` are related, or — only with `esc` — the left run has stopped by itself (nothing is said of `a'` then:
a result with `esc` is used together with "the left run has not stopped") -/
def Upto (esc : Prop) (R : PState → PState → Prop) (a a' : PState) : Prop := (esc ∧ a.ctx = .stopped) ∨ R a a'

theorem Upto.rel {R : PState → PState → Prop} {a a' : PState} (h : Upto False R a a') : R a a' :=
  h.resolve_left fun e => e.1

/-- `R` says that the two states agree on what the loop dispatches on (`err`, `ctx`, `pending`) and on what
`offer` and the end-of-input check read of an option (`bounds`: `min` and `kind`; `max` is read off the record just
saved, inside `saveTok`); it survives the loop's bookkeeping and the
state changes of `offer` and of the end-of-input check; across `procPair` and the non-option branches of `head` it
survives unless — with `esc` — the left run stops there. -/
structure StepRel (ext : Ext) (comp : Option Str) (R : PState → PState → Prop) (esc : Prop) : Prop where
  err : ∀ {s s'}, R s s' → s'.err.isSome = s.err.isSome
  ctx : ∀ {s s'}, R s s' → s'.ctx = s.ctx
  pending : ∀ {s s'}, R s s' → s'.pending = s.pending
  bounds : ∀ {s s'} (o : Nat), R s s' → (s'.P.opt o).min = (s.P.opt o).min ∧ (s'.P.opt o).kind = (s.P.opt o).kind
  setPending : ∀ {s s'} (ps : List Pair), R s s' → R { s with pending := ps } { s' with pending := ps }
  setIdle : ∀ {s s'}, R s s' → R { s with ctx := .idle } { s' with ctx := .idle }
  addText : ∀ {s s'} (t : Str), R s s' → R (s.addText t) (s'.addText t)
  headState : ∀ {s s'} (t : Str), R s s' → R (headState s t) (headState s' t)
  missingArg : ∀ {s s'} (o : Nat), R s s' → R (missingArg s o) (missingArg s' o)
  dashArg : ∀ {s s'} (o : Nat), R s s' → R (dashArg s o) (dashArg s' o)
  saveTok : ∀ {s s'} (o i : Nat) (t : Str), R s s' → R (saveTok ext s o i t) (saveTok ext s' o i t)
  procPair : ∀ {s s'} (p : Pair), R s s' → Upto esc R (procPair ext s p) (procPair ext s' p)
  headOther : ∀ {s s'} (t : Str), R s s' → Upto esc R (headOther ext comp s t) (headOther ext comp s' t)

namespace StepRel
variable {ext : Ext} {comp : Option Str} {R : PState → PState → Prop} {esc : Prop} (H : StepRel ext comp R esc)
include H

/-- both runs take the same branch of `offer` -/
theorem offer (mode : Mode) (o i : Nat) (t : Str) {s s' : PState} (h : R s s') :
    R (offer ext mode s o i t).1 (offer ext mode s' o i t).1 ∧ (offer ext mode s' o i t).2 = (offer ext mode s o i t).2 := by
  rw [offer_eq, offer_eq, (H.bounds o h).1, (H.bounds o h).2]
  let Q (r r' : PState × Bool) : Prop := R r.1 r'.1 ∧ r'.2 = r.2
  exact ite_rel (Q := Q) (fun _ => ite_rel (Q := Q) (fun _ => ⟨H.dashArg o h, rfl⟩) fun _ => ⟨H.saveTok o i t h, rfl⟩)
    (fun _ => ite_rel (Q := Q) (fun _ => ⟨H.setIdle h, rfl⟩) fun _ => ⟨H.saveTok o i t h, rfl⟩)

omit H in
/-- a dispatch on a stopped state ends stopped -/
theorem stopped_byCtx {s : PState} (e : esc ∧ s.ctx = .stopped) (i : PState) (c : Nat → Nat → PState) {st : PState}
    (d : PState) (hst : st.ctx = .stopped) : esc ∧ (byCtx s s i c st d).ctx = .stopped := by
  rw [byCtx_stopped e.2]; split
  · exact e
  · exact ⟨e.1, hst⟩

/-- The dispatch after a pair, `a` and `a'` being the states the pair leaves: an error ends the token, `idle` goes on
with `i`, an open occurrence with `c`, and `stopped` or `done` drop what is pending (`f`). -/
theorem afterPair {a a' i i' : PState} {c c' : Nat → Nat → PState} (h : Upto esc R a a') (f : PState → PState)
    (hf : ∀ x, (f x).ctx = x.ctx) (qf : R a a' → R (f a) (f a')) (qi : R a a' → Upto esc R i i')
    (qc : R a a' → ∀ o k, Upto esc R (c o k) (c' o k)) :
    Upto esc R (byCtx a a i c (f a) (f a)) (byCtx a' a' i' c' (f a') (f a')) := by
  rcases h with e | h
  · exact .inl (stopped_byCtx e _ _ _ ((hf a).trans e.2))
  · exact byCtx_rel (Q := Upto esc R) (H.err h) (H.ctx h) (fun _ => .inr h) (fun _ => qi h) (fun o k _ => qc h o k)
      (fun _ => .inr (qf h)) (fun _ => .inr (qf h))

theorem drain (ps : List Pair) : ∀ {s s'}, R s s' → Upto esc R (drain ext s ps) (drain ext s' ps) := by
  induction ps with
  | nil => intro s s' h; exact .inr (H.setPending [] h)
  | cons p ps ih =>
    intro s s' h
    rw [drain_cons, drain_cons]
    exact H.afterPair (H.procPair p (H.setPending ps h)) (fun x => { x with pending := [] }) (fun _ => rfl)
      (H.setPending []) ih fun h1 _ _ => .inr (H.setPending ps h1)

theorem afterConsume (ps : List Pair) {s s' : PState} (h : R s s') :
    Upto esc R (afterConsume ext s ps) (afterConsume ext s' ps) := by
  rw [afterConsume_eq, afterConsume_eq]
  exact byCtx_rel (Q := Upto esc R) (H.err h) (H.ctx h) (fun _ => .inr h) (fun _ => H.drain ps h)
    (fun _ _ _ => .inr (H.setPending ps h)) (fun _ => .inr (H.setPending ps h)) (fun _ => .inr (H.setPending ps h))

theorem head (mode : Mode) (t : Str) {s s' : PState} (h : R s s') :
    Upto esc R (head ext mode comp s t) (head ext mode comp s' t) := by
  rw [head_eq, head_eq]
  split
  · exact H.drain _ (H.headState t h)
  · exact H.headOther t h

/-- after `offer`: the token was consumed (`k₁`) or refused (`k₂`) -/
theorem afterOffer (mode : Mode) {s s' : PState} (h : R s s') (o i : Nat) (t : Str) {k₁ k₂ : PState → PState}
    (q₁ : ∀ {a a'}, R a a' → Upto esc R (k₁ a) (k₁ a')) (q₂ : ∀ {a a'}, R a a' → Upto esc R (k₂ a) (k₂ a')) :
    Upto esc R (match GoModel.offer ext mode s o i t with | (a, true) => k₁ a | (a, false) => k₂ a)
      (match GoModel.offer ext mode s' o i t with | (a, true) => k₁ a | (a, false) => k₂ a) := by
  have h2 := H.offer mode o i t h
  generalize GoModel.offer ext mode s o i t = r at h2
  generalize GoModel.offer ext mode s' o i t = r' at h2
  obtain ⟨a, c⟩ := r
  obtain ⟨a', c'⟩ := r'
  obtain ⟨h2, (rfl : c' = c)⟩ := h2
  cases c'
  · exact q₂ h2
  · exact q₁ h2

/-- a function of the state and of its own pending list -/
theorem ownPending {f : PState → List Pair → PState} {a a' : PState} (h : R a a')
    (q : ∀ ps, Upto esc R (f a ps) (f a' ps)) : Upto esc R (f a a.pending) (f a' a'.pending) := by
  rw [H.pending h]; exact q _

theorem feedPending (mode : Mode) (t : Str) (ps : List Pair) : ∀ {s s'}, R s s' →
    Upto esc R (feedPending ext mode comp t s ps) (feedPending ext mode comp t s' ps) := by
  induction ps with
  | nil => intro s s' h; unfold GoModel.feedPending; exact H.head mode t (H.setPending [] h)
  | cons p ps ih =>
    intro s s' h
    rw [feedPending_cons, feedPending_cons]
    exact H.afterPair (H.procPair p (H.setPending ps h)) (fun x => { x.addText t with pending := [] }) (fun _ => rfl)
      (fun h1 => H.setPending [] (H.addText t h1)) ih fun h1 o i => H.afterOffer mode h1 o i t (H.afterConsume ps) ih

theorem stepG (mode : Mode) (t : Str) {s s' : PState} (h : R s s') :
    Upto esc R (stepG ext mode comp s t) (stepG ext mode comp s' t) := by
  rw [stepG_eq, stepG_eq]
  refine byCtx_rel (Q := Upto esc R) (H.err h) (H.ctx h) (fun _ => .inr h) (fun _ => H.head mode t h) (fun o i _ => ?_)
    (fun _ => .inr (H.addText t h)) (fun _ => .inr h)
  exact H.afterOffer mode h o i t (k₁ := fun a => GoModel.afterConsume ext a a.pending)
    (k₂ := fun a => GoModel.feedPending ext mode comp t a a.pending)
    (fun h2 => H.ownPending (f := GoModel.afterConsume ext) h2 fun ps => H.afterConsume ps h2)
    (fun h2 => H.ownPending (f := fun a ps => GoModel.feedPending ext mode comp t a ps) h2 fun ps =>
      H.feedPending mode t ps h2)

omit H in
theorem stopped_stepG (mode : Mode) (comp : Option Str) (t : Str) {s : PState} (e : esc ∧ s.ctx = .stopped) :
    esc ∧ (GoModel.stepG ext mode comp s t).ctx = .stopped := by
  rw [stepG_eq]; exact stopped_byCtx e _ _ _ e.2

-- `step` is `stepG` without a completion target: from here on the instance for `none`
omit H in
theorem foldl (H : StepRel ext none R esc) (mode : Mode) (ts : List Str) : ∀ {s s'}, Upto esc R s s' →
    Upto esc R (ts.foldl (step ext mode) s) (ts.foldl (step ext mode) s') := by
  induction ts with
  | nil => intro s s' h; exact h
  | cons t ts ih =>
    intro s s' h
    refine ih ?_
    rcases h with e | h
    · exact .inl (stopped_stepG mode none t e)
    · exact H.stepG mode t h

/-- the end-of-input check of an open occurrence, then `x` -/
theorem afterMissing {s s' : PState} (h : R s s') (o i : Nat) {x x' : PState} (q : Upto esc R x x') :
    Upto esc R (if (i : Int) < (s.P.opt o).min then GoModel.missingArg s o else x)
      (if (i : Int) < (s'.P.opt o).min then GoModel.missingArg s' o else x') := by
  rw [(H.bounds o h).1]
  split
  · exact .inr (H.missingArg o h)
  · exact q

theorem finishDrain (ps : List Pair) : ∀ {s s'}, R s s' →
    Upto esc R (finishDrain ext s ps) (finishDrain ext s' ps) := by
  induction ps with
  | nil => intro s s' h; exact .inr (H.setPending [] h)
  | cons p ps ih =>
    intro s s' h
    rw [finishDrain_cons, finishDrain_cons]
    exact H.afterPair (H.procPair p (H.setPending ps h)) (fun x => { x with pending := [] }) (fun _ => rfl)
      (H.setPending []) ih fun h1 o i => H.afterMissing h1 o i (ih (H.setIdle h1))

theorem finish {s s' : PState} (h : Upto esc R s s') : Upto esc R (finish ext s) (finish ext s') := by
  rcases h with e | h
  · rw [finish_stopped ext s e.2]; exact .inl e
  · rw [finish_eq, finish_eq]
    exact byCtx_rel (Q := Upto esc R) (H.err h) (H.ctx h) (fun _ => .inr h) (fun _ => .inr h)
      (fun o i _ => H.afterMissing h o i
        (H.ownPending (f := GoModel.finishDrain ext) (H.setIdle h) fun ps => H.finishDrain ps (H.setIdle h)))
      (fun _ => .inr h) (fun _ => .inr h)

omit H in
theorem parseArgs (H : StepRel ext none R esc) (mode : Mode) {P P' : Prog} (h : R (initState P) (initState P'))
    (args : List Str) : Upto esc R (parseArgs ext mode P args) (parseArgs ext mode P' args) :=
  H.finish (H.foldl mode args (.inr h))

-- the earlier words are a `step` fold, the last one is fed with the target: one instance for each
omit H in
theorem completeArgs {target : Str} (H : StepRel ext none R esc) (H' : StepRel ext (some target) R esc) (mode : Mode)
    {P P' : Prog} (h : R (initState P) (initState P')) (words : List Str) :
    Upto esc R (completeArgs ext mode target P words) (completeArgs ext mode target P' words) := by
  unfold GoModel.completeArgs
  cases words.getLast? with
  | none => exact .inr h
  | some w =>
    refine H.finish ?_
    rcases H.foldl mode words.dropLast (.inr h) with e | h1
    · exact .inl (stopped_stepG mode _ w e)
    · exact H'.stepG mode w h1

end StepRel
end GoModel
