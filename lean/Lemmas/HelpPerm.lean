import Lemmas.Perm
import Lemmas.HelpLists
import Lemmas.HelpBytes
/-! The rendered help text does not depend on the iteration order of the option and command tables. -/
namespace GoModel

theorem helpOptions_perm (P : Prog) (nd nd' : Node) (h : NodePerm nd nd') :
    (helpOptions P nd).Perm (helpOptions P nd') := (h.opts.filter _).map _

section
variable (P : Prog) (N' : List Node) (h : NPerm P N')
include h

theorem wnode (i : Nat) : ({ P with nodes := N' } : Prog).node i = N'.getD i dummyNode := rfl

end

section Over
variable (ext : Ext) {P Q : Prog} (ho : Q.opt = P.opt) (h : ∀ i, NodePerm (P.node i) (Q.node i))
  (hlen : Q.nodes.length = P.nodes.length)

/-- what is not a table is the same: `g` reads neither `opts` nor `cmds` -/
theorem NodePerm.proj {α} {n n' : Node} (h : NodePerm n n') (g : Node → α)
    (hg : ∀ x : Node, g x = g { x with opts := [], cmds := [] } := by intro; rfl) : g n' = g n := by
  rw [hg n', hg n, h.rest]

include h

theorem pathUp_w (fuel n : Nat) : Q.pathUp fuel n = P.pathUp fuel n := by
  induction fuel generalizing n with
  | zero => rfl
  | succ f ih =>
    simp only [Prog.pathUp]
    rw [(h n).proj Node.parent]
    cases (P.node n).parent with
    | none => rfl
    | some p => simp only; rw [ih]

include hlen in
theorem scriptName_w (n : Nat) : scriptName Q n = scriptName P n := by
  unfold scriptName Prog.path
  rw [pathUp_w h, hlen]
  exact congrArg _ (List.map_congr_left fun i _ => (h i).proj Node.name)

theorem helpCommands_w (n : Nat) : (helpCommands (Q.node n)).Perm (helpCommands (P.node n)) := by
  unfold helpCommands
  rw [(h n).proj Node.helpName]
  exact (h n).cmds.symm.filter _

omit h
include ho

theorem sortByName_w (l : List Nat) : sortByName Q l = sortByName P l := by
  have ins : ∀ x l, insertByName Q x l = insertByName P x l := fun x l => by
    induction l with
    | nil => rfl
    | cons y ys ih => simp only [insertByName, ho, ih]
  induction l with
  | nil => rfl
  | cons x xs ih => simp only [sortByName, ih, ins]

theorem helpOptions_w (nd : Node) : helpOptions Q nd = helpOptions P nd := by
  unfold helpOptions; rw [ho]

include h

theorem sortedOpts_w (q : Opt → Bool) (n : Nat) :
    sortByName Q ((helpOptions Q (Q.node n)).filter fun o => q (Q.opt o)) =
      sortByName P ((helpOptions P (P.node n)).filter fun o => q (P.opt o)) := by
  rw [sortByName_w ho, helpOptions_w ho, ho]
  refine (sortByName_perm_eq P _ _ ((helpOptions_perm P (P.node n) _ (h n)).filter _) ?_).symm
  exact List.Nodup.sublist (List.Sublist.map _ List.filter_sublist) (helpOptions_names_nodup P (P.node n) (h n).ndO)

theorem requiredOpts_w (n : Nat) : requiredOpts Q (Q.node n) = requiredOpts P (P.node n) :=
  sortedOpts_w ho h (·.required) n

theorem normalOpts_w (n : Nat) : normalOpts Q (Q.node n) = normalOpts P (P.node n) :=
  sortedOpts_w ho h (fun o => !o.required) n

include hlen in
theorem helpSynopsis_w (n : Nat) : helpSynopsis ext Q n = helpSynopsis ext P n := by
  unfold helpSynopsis
  simp only
  rw [scriptName_w h hlen, requiredOpts_w ho h, normalOpts_w ho h, (h n).proj Node.synArgs,
      (helpCommands_w h n).isEmpty_eq, ho]

omit ho in
theorem commandLine_w (n : Nat) (name : Str) : commandLine Q (Q.node n) name = commandLine P (P.node n) name := by
  have hc := helpCommands_w h n
  unfold commandLine
  simp only
  rw [sortStrs_perm_eq _ _ (hc.map _), find?_key_eq_lookup, find?_key_eq_lookup,
    ← lookup_perm _ _ name hc.symm (helpCommands_nodup _ (h n).ndC)]
  cases lookup name (helpCommands (P.node n)) with
  | none => rfl
  | some c => simp only [Option.map_some, (h c).proj Node.description]

omit ho in
theorem helpCommandList_w (n : Nat) : helpCommandList ext Q (Q.node n) = helpCommandList ext P (P.node n) := by
  have hc := helpCommands_w h n
  rw [helpCommandList_eq, helpCommandList_eq, hc.isEmpty_eq, sortStrs_perm_eq _ _ (hc.map _),
    flatMap_congr' _ _ (commandLine P (P.node n)) fun name _ => commandLine_w h n name]

theorem helpFactor_w (n : Nat) : helpFactor Q (Q.node n) = helpFactor P (P.node n) := by
  unfold helpFactor
  rw [(h n).proj Node.synArgs, ho, helpOptions_w ho, maxLen_perm _ _ ((helpOptions_perm P (P.node n) _ (h n)).symm.map _)]

theorem helpOptionList_w (n : Nat) : helpOptionList ext Q (Q.node n) = helpOptionList ext P (P.node n) := by
  rw [helpOptionList_eq, helpOptionList_eq]
  unfold requiredBlock optionsBlock
  rw [requiredOpts_w ho h, normalOpts_w ho h, (h n).proj Node.synArgs, helpFactor_w ho h, ho]

include hlen

theorem helpSection_w (n : Nat) (sec : Section) : helpSection ext Q n sec = helpSection ext P n sec := by
  unfold helpSection
  simp only
  cases sec with
  | defaultName => simp only [(h n).proj Node.parent, (h n).proj Node.description, scriptName_w h hlen]
  | name => simp only [(h n).proj Node.description, scriptName_w h hlen]
  | synopsis => simp only [helpSynopsis_w ext ho h hlen]
  | commandList => simp only [helpCommandList_w ext h n]
  | optionList => simp only [helpOptionList_w ext ho h]
  | commandInfo => simp only [(h n).proj Node.helpName, scriptName_w h hlen, (h n).cmds.length_eq.symm]
  | none => rfl

/-- **The help text of every level is independent of the iteration order of the tables.** -/
theorem helpOutput_w (n : Nat) (secs : List Section) : helpOutput ext Q n secs = helpOutput ext P n secs :=
  flatMap_congr' _ _ _ fun sec _ => helpSection_w ext ho h hlen n sec

end Over

end GoModel
