import Lemmas.Perm
import Lemmas.OptCand
/-! The completion list does not depend on the iteration order of the tables. -/
namespace GoModel

variable (ext : Ext)

theorem lastHit_filter (part : Str) (l : List (Str × Nat)) (a : Option Nat) :
    lastHit part l a = lastHit part (l.filter (hitKey part)) a := by
  rw [lastHit, lastHit, List.foldl_filter]
  congr; funext a kv; split <;> rfl

theorem perm_eq_of_length_le_one {α} (l l' : List α) (hp : l.Perm l') (h : l.length ≤ 1) : l = l' := by
  match l, h with
  | [], _ => exact hp.symm.eq_nil.symm ▸ rfl
  | [a], _ => exact (hp.symm.eq_singleton).symm

theorem lastHit_perm (part : Str) (l l' : List (Str × Nat)) (a : Option Nat) (hp : l.Perm l')
    (h : (l.filter (hitKey part)).length ≤ 1) : lastHit part l a = lastHit part l' a := by
  rw [lastHit_filter part l, lastHit_filter part l', perm_eq_of_length_le_one _ _ (hp.filter _) h]

/-- a key without `=` that, followed by `=`, is a prefix of `part` is the text of `part` before its first `=` -/
theorem key_of_prefix (k part : Str) (hk : containsByte k chEq = false) (h : hasPrefix part (k ++ [chEq]) = true) :
    k = part.takeWhile (· != chEq) := by
  obtain ⟨r, rfl⟩ := (hasPrefix_iff _ _).mp h
  have hk' : ∀ c ∈ k, (c != chEq) = true := fun c hc => by
    rw [bne_iff_ne]; rintro rfl; rw [← containsByte_iff, hk] at hc; cases hc
  rw [List.append_assoc, List.takeWhile_append_of_pos hk']
  simp

/-- no key of the table contains `=` -/
def KeysNoEq (nd : Node) : Prop := ∀ kv ∈ nd.opts, containsByte kv.1 chEq = false

theorem hits_le_one_eq (part : Str) (nd : Node) (hpe : containsByte part chEq = true) (hk : KeysNoEq nd)
    (hnd : (nd.opts.map (·.1)).Nodup) : (nd.opts.filter (hitKey part)).length ≤ 1 := by
  rw [← List.length_map (·.1)]
  refine length_le_one_of_nodup (a := part.takeWhile (· != chEq))
    (List.Nodup.sublist (List.Sublist.map _ List.filter_sublist) hnd) (List.forall_mem_map.mpr fun kv hkv => ?_)
  have hm := List.mem_filter.mp hkv
  have hne := hk kv hm.1
  have hh := hm.2
  unfold hitKey at hh
  simp only [Bool.and_eq_true, Bool.not_eq_true', Bool.or_eq_true] at hh
  rcases hh.2 with h1 | h2
  · exfalso
    have : chEq ∈ kv.1 := ((hasPrefix_iff kv.1 part).mp h1).subset ((containsByte_iff _ _).mp hpe)
    rw [← containsByte_iff, hne] at this; cases this
  · exact key_of_prefix kv.1 part hne h2.2

theorem cands_ge_hits (target : Str) (P : Prog) (w part : Str) (l : List (Str × Nat))
    (hpe : containsByte part chEq = false) :
    (l.filter (hitKey part)).length ≤ (l.flatMap (candsOfKey ext target P w part)).length := by
  induction l with
  | nil => simp
  | cons kv l ih =>
    simp only [List.flatMap_cons, List.length_append]
    by_cases h : hitKey part kv = true
    · rw [List.filter_cons_of_pos h]
      simp only [List.length_cons]
      have : 1 ≤ (candsOfKey ext target P w part kv).length := by
        unfold hitKey at h
        simp only [hpe, Bool.false_and, Bool.or_false, Bool.and_eq_true, Bool.not_eq_true'] at h
        unfold candsOfKey
        simp only [h.1, Bool.false_eq_true, ↓reduceIte, h.2, hpe, Bool.false_and, List.append_nil]
        simp
      omega
    · rw [List.filter_cons_of_neg h]; omega

/-- **The option candidates do not depend on the iteration order of the table.** -/
theorem optionCompletions_perm (target : Str) (P : Prog) (nd nd' : Node) (w : Str)
    (hp : nd.opts.Perm nd'.opts) (hnd : (nd.opts.map (·.1)).Nodup) (hk : KeysNoEq nd) :
    optionCompletions ext target P nd w = optionCompletions ext target P nd' w := by
  rw [optionCompletions_eq, optionCompletions_eq, optCand_fold, optCand_fold]
  simp only [List.nil_append]
  have hcs : sortStrs (nd.opts.flatMap (candsOfKey ext target P w (trimDash (trimDash w)))) =
      sortStrs (nd'.opts.flatMap (candsOfKey ext target P w (trimDash (trimDash w)))) :=
    sortStrs_perm_eq _ _ (hp.flatMap_right _)
  rw [← hcs]
  -- `lastOpt` is the last hit in iteration order.  With `=` in the typed text every hit has the key before the `=`, so
  -- distinct keys give at most one hit; without `=` every hit contributes a candidate, so two hits give two candidates
  -- and the single-candidate hint, the only reader of `lastOpt`, is not used
  by_cases hle : (nd.opts.filter (hitKey (trimDash (trimDash w)))).length ≤ 1
  · rw [lastHit_perm _ _ _ none hp hle]
  · have hpe : containsByte (trimDash (trimDash w)) chEq = false := by
      cases hx : containsByte (trimDash (trimDash w)) chEq with
      | false => rfl
      | true => exact absurd (hits_le_one_eq _ nd hx hk hnd) hle
    have h2 : 2 ≤ (sortStrs (nd.opts.flatMap (candsOfKey ext target P w (trimDash (trimDash w))))).length := by
      rw [(sortStrs_perm _).length_eq]
      have := cands_ge_hits ext target P w (trimDash (trimDash w)) nd.opts hpe
      omega
    rw [finishOpt_two P _ _ h2, finishOpt_two P _ _ h2]

theorem argCompletions_perm (target : Str) (nd nd' : Node) (text : List Str) (w : Str)
    (hp : nd.cmds.Perm nd'.cmds) (hs : nd'.suggestions = nd.suggestions) (hf : nd'.suggestFns = nd.suggestFns) :
    argCompletions ext target nd text w = argCompletions ext target nd' text w := by
  unfold argCompletions
  simp only
  rw [hs, hf]
  have : sortStrs ((nd.cmds.filter fun kv => hasPrefix kv.1 w).map (·.1) ++ nd.suggestions.filter (fun e => hasPrefix e w) ++
        nd.suggestFns.flatMap fun f => ext.argFn f target text w) =
      sortStrs ((nd'.cmds.filter fun kv => hasPrefix kv.1 w).map (·.1) ++ nd.suggestions.filter (fun e => hasPrefix e w) ++
        nd.suggestFns.flatMap fun f => ext.argFn f target text w) := by
    apply sortStrs_perm_eq
    exact ((((hp.filter _).map _).append_right _).append_right _)
  rw [this]

/-- **The completion list of a level does not depend on the iteration order of its tables.** -/
theorem completionsAt_perm (target : Str) (P : Prog) (nd nd' : Node) (text : List Str) (w : Str)
    (h : NodePerm nd nd') (hk : KeysNoEq nd) :
    completionsAt ext target P nd text w = completionsAt ext target P nd' text w := by
  unfold completionsAt
  split
  · exact optionCompletions_perm ext target P nd nd' w h.opts h.ndO hk
  · exact argCompletions_perm ext target nd nd' text w h.cmds
      (congrArg Node.suggestions h.rest).symm (congrArg Node.suggestFns h.rest).symm

end GoModel
