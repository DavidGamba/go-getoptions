import Lemmas.Obs
import Lemmas.Dispatch
/-! States that differ only in the bookkeeping of the verbatim token (`tok`, `lastTok`, `passed`)
while nothing is pending evolve identically: the bookkeeping is only read while pairs are pending, and the
only way from an empty pending list to `procPair` is through `headState`, which overwrites it.  `Sim` is not an instance
of `StepRel` (`Lemmas/StepRel.lean`): `procPair` reads `tok`, `passed` and `lastTok`, so `Sim` is not preserved pair by
pair; it survives a whole step because pairs are only processed after `headState` has overwritten the three fields. -/
namespace GoModel

variable (ext : Ext) (mode : Mode)

/-- same state up to the token bookkeeping -/
def retok (s : PState) (a : Str) (p : Bool) (c : Str) : PState := { s with tok := a, passed := p, lastTok := c }

/-- nothing is interpreted any more -/
def Frozen (s : PState) : Prop := s.err.isSome = true ∨ s.ctx = .stopped ∨ s.ctx = .done

structure Sim (s s' : PState) : Prop where
  obs : ObsEq s s'
  -- nothing is read any more; or the states are the same; or no pair is waiting to read the bookkeeping they differ in
  pend : Frozen s ∨ s = s' ∨ (s.pending = [] ∧ s'.pending = [])

theorem Sim.refl (s : PState) : Sim s s := ⟨ObsEq.refl s, Or.inr (Or.inl rfl)⟩

theorem sim_retok (s : PState) (a : Str) (p : Bool) (c : Str) (h : s.pending = []) : Sim s (retok s a p c) :=
  ⟨.book s a p c _, Or.inr (Or.inr ⟨h, h⟩)⟩

theorem retok_of_sim {s s' : PState} (h : Sim s s') (hp : s.pending = []) (hp' : s'.pending = []) :
    ∃ a p c, s' = retok s a p c := by
  obtain ⟨a, p, c, l, rfl⟩ := h.obs.eq_book
  exact ⟨a, p, c, by cases s; cases hp; cases hp'; rfl⟩

theorem sim_of_obs {a c : PState} (h : ObsEq a c) (ha : a.pending = []) (hc : c.pending = []) : Sim a c :=
  ⟨h, .inr (.inr ⟨ha, hc⟩)⟩

theorem head_retok (s : PState) (t a : Str) (p : Bool) (c : Str) (h : s.pending = []) :
    Sim (head ext mode none s t) (head ext mode none (retok s a p c) t) := by
  rw [head_eq, head_eq]
  refine ite_rel (Q := Sim) (fun _ => Sim.refl _) fun _ => ?_
  refine ite_rel (Q := Sim) (fun _ => sim_retok { s with ctx := .stopped } a p c h) fun _ => ?_
  show Sim (match lookup t (s.P.node s.cur).cmds with | some cmd => _ | none => _)
    (match lookup t (s.P.node s.cur).cmds with | some cmd => _ | none => _)
  cases lookup t (s.P.node s.cur).cmds with
  | some cmd => exact sim_retok { s with cur := cmd, textStart := s.rem.length } a p c h
  | none =>
    exact ite_rel (Q := Sim) (fun _ => sim_retok { s.addText t with ctx := .stopped } a p c h)
      fun _ => sim_retok (s.addText t) a p c h

theorem afterConsume_nil_retok (s : PState) (a : Str) (p : Bool) (c : Str) (h : s.pending = []) :
    Sim (afterConsume ext s []) (afterConsume ext (retok s a p c) []) := by
  rw [afterConsume_eq, afterConsume_eq]
  exact byCtx_rel (Q := Sim) rfl rfl (fun _ => sim_retok s a p c h) (fun _ => sim_retok { s with pending := [] } a p c rfl)
    (fun _ _ _ => sim_retok { s with pending := [] } a p c rfl) (fun _ => sim_retok { s with pending := [] } a p c rfl)
    (fun _ => sim_retok { s with pending := [] } a p c rfl)

/-- saving a token reads none of the bookkeeping, overwrites `lastTok` and leaves the pending list alone -/
theorem saveTok_retok (s : PState) (o i : Nat) (t a : Str) (p : Bool) (c : Str) :
    saveTok ext (retok s a p c) o i t = retok (saveTok ext s o i t) a p t ∧
      (saveTok ext s o i t).pending = s.pending := by
  show (match save ext (s.P.node 0).mapKeysToLower (s.P.opt o) [t] with | .error e => _ | .ok o' => _) = _ ∧ _
  unfold saveTok
  cases save ext (s.P.node 0).mapKeysToLower (s.P.opt o) [t] <;> exact ⟨rfl, rfl⟩

theorem step_retok (s : PState) (t a : Str) (p : Bool) (c : Str) (h : s.pending = []) :
    Sim (step ext mode s t) (step ext mode (retok s a p c) t) := by
  unfold step
  rw [stepG_eq, stepG_eq]
  refine byCtx_rel (Q := Sim) rfl rfl (fun _ => sim_retok s a p c h) (fun _ => head_retok ext mode s t a p c h)
    (fun o i _ => ?_) (fun _ => sim_retok (s.addText t) a p c h) (fun _ => sim_retok s a p c h)
  -- what `offer` returns in the two states differs in the bookkeeping only, and nothing is pending in it
  let Q (r r' : PState × Bool) : Prop :=
    Sim (match r with | (s1, true) => afterConsume ext s1 s1.pending | (s1, false) => feedPending ext mode none t s1 s1.pending)
      (match r' with | (s1, true) => afterConsume ext s1 s1.pending | (s1, false) => feedPending ext mode none t s1 s1.pending)
  have consumed : ∀ (x : PState) (c' : Str), x.pending = [] → Q (x, true) (retok x a p c', true) := fun x c' hx => by
    show Sim (afterConsume ext x x.pending) (afterConsume ext (retok x a p c') x.pending)
    rw [hx]; exact afterConsume_nil_retok ext x a p c' hx
  have refused : Q ({ s with ctx := .idle }, false) (retok { s with ctx := .idle } a p c, false) := by
    show Sim (feedPending ext mode none t { s with ctx := .idle } s.pending)
      (feedPending ext mode none t (retok { s with ctx := .idle } a p c) s.pending)
    rw [h]; exact head_retok ext mode _ t a p c rfl
  have hs := saveTok_retok ext s o i t a p c
  rw [offer_eq, offer_eq, hs.1]
  exact ite_rel (Q := Q)
    (fun _ => ite_rel (Q := Q) (fun _ => consumed (dashArg s o) c h) fun _ => consumed _ t (hs.2.trans h))
    (fun _ => ite_rel (Q := Q) (fun _ => refused) fun _ => consumed _ t (hs.2.trans h))

/-- one more token keeps the two runs similar -/
theorem step_sim (s s' : PState) (t : Str) (h : Sim s s') : Sim (step ext mode s t) (step ext mode s' t) := by
  by_cases he : s.err.isSome = true
  · rw [step_err ext mode s t he, step_err ext mode s' t (by rw [← h.obs.err]; exact he)]; exact h
  · rcases h.pend with hf | rfl | ⟨hp, hp'⟩
    · have hc : s.ctx = .stopped ∨ s.ctx = .done := hf.resolve_left he
      unfold step
      rw [stepG_eq, stepG_eq]
      exact byCtx_rel (Q := Sim) (by rw [h.obs.err]) h.obs.ctx.symm (fun _ => h) (fun x => by rw [x] at hc; simp at hc)
        (fun _ _ x => by rw [x] at hc; simp at hc) (fun x => ⟨h.obs.addText t, .inl (.inr (.inl x))⟩) (fun _ => h)
    · exact Sim.refl _
    · obtain ⟨a, p, c, rfl⟩ := retok_of_sim h hp hp'
      exact step_retok ext mode s t a p c hp

theorem foldl_sim (ts : List Str) (s s' : PState) (h : Sim s s') :
    Sim (ts.foldl (step ext mode) s) (ts.foldl (step ext mode) s') := by
  induction ts generalizing s s' with
  | nil => exact h
  | cons t ts ih => exact ih _ _ (step_sim ext mode s s' t h)

theorem finish_sim (s s' : PState) (h : Sim s s') : ObsEq (finish ext s) (finish ext s') := by
  by_cases he : s.err.isSome = true
  · rw [finish_err ext s he, finish_err ext s' (by rw [← h.obs.err]; exact he)]; exact h.obs
  · rcases h.pend with hf | rfl | ⟨hp, hp'⟩
    · have hc : s.ctx = .stopped ∨ s.ctx = .done := hf.resolve_left he
      rw [finish_eq, finish_eq]
      exact byCtx_rel (Q := ObsEq) (by rw [h.obs.err]) h.obs.ctx.symm (fun _ => h.obs) (fun _ => h.obs)
        (fun _ _ x => by rw [x] at hc; simp at hc) (fun _ => h.obs) (fun _ => h.obs)
    · exact ObsEq.refl _
    · obtain ⟨a, p, c, rfl⟩ := retok_of_sim h hp hp'
      rw [finish_eq, finish_eq]
      refine byCtx_rel (Q := ObsEq) rfl rfl (fun _ => .book ..) (fun _ => .book ..) (fun o i _ => ?_) (fun _ => .book ..)
        (fun _ => .book ..)
      refine ite_rel (Q := ObsEq) (fun _ => .book ..) fun _ => ?_
      show ObsEq (finishDrain ext { s with ctx := .idle } s.pending) (finishDrain ext (retok { s with ctx := .idle } _ _ _) s.pending)
      rw [hp]; exact .book ..

/-- lifting to the whole command line: replace the tokens `us` by `vs` after the prefix `pre` -/
theorem parse_of_sim (P : Prog) (pre us vs post : List Str)
    (h : Sim (us.foldl (step ext mode) (run ext mode P pre)) (vs.foldl (step ext mode) (run ext mode P pre))) :
    ObsEq (parseArgs ext mode P (pre ++ us ++ post)) (parseArgs ext mode P (pre ++ vs ++ post)) := by
  unfold parseArgs run
  simp only [List.foldl_append]
  exact finish_sim ext _ _ (foldl_sim ext mode post _ _ h)

end GoModel
