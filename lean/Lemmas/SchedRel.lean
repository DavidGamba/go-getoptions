import Lemmas.Sched
/-!
The relation every successful `step?` satisfies.  `VStep` lists the events of one vertex: the guard, and the new state of that vertex.
`Step` adds what happens around it (the entry appended to the report, the marking of the ancestors after
`ErrorSkipParents`) and the three events of the loop itself.  `step?_step` passes from the function to the relation
(one way only: `Step` drops the guard that nothing but `semRel` happens after `exit`, which is `step?_exited`);
what holds for every event is then proved by cases on `VStep`, on goals that speak of one `VState`.
-/
namespace GoModel.Dag

/-- the entry of the returned `*Errors` value an event contributes -/
def entryOf : Event → Option Entry
  | .recv v .err => some (.task v)
  | .recv v .taskSkipped => some (.skipped v)
  | .cancel => some .cancelled
  | _ => none

variable {c : Cfg} {s s' : Sched} {ev : Event} {v : Nat} {x : VState}

def Sched.report (s : Sched) (l : List Entry) : Sched := { s with errs := s.errs ++ l }

@[simp] theorem report_get (s : Sched) (l : List Entry) (y : Nat) : (s.report l).get y = s.get y := rfl
@[simp] theorem report_errs (s : Sched) (l : List Entry) : (s.report l).errs = s.errs ++ l := rfl
@[simp] theorem report_exited (s : Sched) (l : List Entry) : (s.report l).exited = s.exited := rfl
@[simp] theorem report_cancelled (s : Sched) (l : List Entry) : (s.report l).cancelled = s.cancelled := rfl
@[simp] theorem report_nil (s : Sched) : s.report [] = s := by simp [Sched.report]

/-- a vertex after its completion `r` was received: the result of the task goroutine if that is what it is sending,
otherwise one of the outstanding pseudo completions -/
def VState.recv (x : VState) (r : Res) : VState :=
  if x.fl = .sending r then { x with st := .done, fl := .none, out := some r }
  else { x with st := .done, pseudo := x.pseudo.erase r, out := some r }

section
variable (x : VState) (r : Res)
@[simp] theorem VState.recv_st : (x.recv r).st = .done := by unfold VState.recv; split <;> rfl
@[simp] theorem VState.recv_out : (x.recv r).out = some r := by unfold VState.recv; split <;> rfl
@[simp] theorem VState.recv_real : (x.recv r).real = x.real := by unfold VState.recv; split <;> rfl
@[simp] theorem VState.recv_marked : (x.recv r).marked = x.marked := by unfold VState.recv; split <;> rfl
@[simp] theorem VState.recv_sem : (x.recv r).sem = x.sem := by unfold VState.recv; split <;> rfl
theorem VState.recv_fl : (x.recv r).fl = if x.fl = .sending r then .none else x.fl := by
  unfold VState.recv; split <;> simp_all
theorem VState.mem_recv_pseudo {x : VState} {r q : Res} (h : q ∈ (x.recv r).pseudo) : q ∈ x.pseudo := by
  unfold VState.recv at h; split at h
  · exact h
  · exact List.mem_of_mem_erase h
end

/-- The events that concern one vertex: when `ev` is possible for `v` in `s`, and the new state of `v`. -/
inductive VStep (c : Cfg) (s : Sched) (v : Nat) : Event → VState → Prop
  | pickReal (hv : c.g.has v = true) (hm : mayPick c s = true) (hr : ready c s v = true)
      (hp : (s.get v).st = .pending) (he : s.errs = []) :
      VStep c s v (.pickReal v) { s.get v with st := .inProgress, fl := .waitSem, real := true }
  | pickSkip (hv : c.g.has v = true) (hm : mayPick c s = true) (hr : ready c s v = true)
      (hp : (s.get v).st = .skip) :
      VStep c s v (.pickSkip v) { s.get v with st := .inProgress, pseudo := .ok :: (s.get v).pseudo }
  | pickErr (hv : c.g.has v = true) (hm : mayPick c s = true) (hr : ready c s v = true)
      (hp : (s.get v).st = .pending) (he : s.errs ≠ []) :
      VStep c s v (.pickErr v) { s.get v with st := .inProgress, pseudo := .taskSkipped :: (s.get v).pseudo }
  | recv (r : Res) (hv : c.g.has v = true) (hr : r ∈ (s.get v).pseudo ∨ (s.get v).fl = .sending r) :
      VStep c s v (.recv v r) ((s.get v).recv r)
  | semAcq (hf : (s.get v).fl = .waitSem) (hh : holders c s < c.maxParallel) :
      VStep c s v (.semAcq v) { s.get v with fl := .waitLock, sem := true }
  | lockAcq (hf : (s.get v).fl = .waitLock) : VStep c s v (.lockAcq v) { s.get v with fl := .idle 0 }
  | enter (k : Nat) (hf : (s.get v).fl = .idle k) (hk : (k : Int) ≤ c.g.retriesOf v) :
      VStep c s v (.enter v k) { s.get v with fl := .running k }
  | leaveSend (k : Nat) (r : Res) (hf : (s.get v).fl = .running k) (hr : r ≠ .taskSkipped)
      (hl : r = .ok ∨ (k : Int) ≥ c.g.retriesOf v) :
      VStep c s v (.leave v k r) { s.get v with fl := .sending r }
  | leaveRetry (k : Nat) (r : Res) (hf : (s.get v).fl = .running k) (hr : r ≠ .taskSkipped)
      (hl : r ≠ .ok ∧ (k : Int) < c.g.retriesOf v) :
      VStep c s v (.leave v k r) { s.get v with fl := .idle (k + 1) }
  | semRel (hs : (s.get v).sem = true) (hf : (s.get v).fl = .none ∨ ∃ r, (s.get v).fl = .sending r) :
      VStep c s v (.semRel v) { s.get v with sem := false }

/-- what a successful `step?` does: an event of one vertex (with the entry it adds to the report), the same followed by the
marking of the ancestors, or one of the three events of the loop itself. -/
inductive Step (c : Cfg) (s : Sched) : Event → Sched → Prop
  | vertex {v : Nat} {ev : Event} {x : VState} (h : VStep c s v ev x) (hn : ev ≠ .recv v .skipParents) :
      Step c s ev ((s.set v x).report (entryOf ev).toList)
  | skip {v : Nat} {x : VState} (h : VStep c s v (.recv v .skipParents) x) :
      Step c s (.recv v .skipParents) (markAncestors c (s.set v x) v)
  | cancel (hc : s.cancelled = false) : Step c s .cancel { s with cancelled := true, errs := s.errs ++ [.cancelled] }
  | idle (hd : allDone c s = false) (hn : mayPick c s = false ∨ ∀ v ∈ c.g.ids, ready c s v = false) : Step c s .idle s
  | exit (hd : allDone c s = true) : Step c s .exit { s with exited := true }

theorem Step.of_vertex (h : VStep c s v ev x) (hn : ev ≠ .recv v .skipParents)
    (hs : s' = (s.set v x).report (entryOf ev).toList) : Step c s ev s' := hs ▸ .vertex h hn

/-- after the loop has ended only late semaphore releases are possible -/
theorem step?_exited (h : step? c s ev = some s') (hx : s.exited = true) : ∃ v, ev = .semRel v := by
  unfold step? at h
  rw [hx] at h
  cases ev with
  | semRel v => exact ⟨v, rfl⟩
  | _ => cases h

theorem step?_step (h : step? c s ev = some s') : Step c s ev s' := by
  -- every branch of `step?` is `if guard then some _ else none`: read `h` as the guard and the result (`split` on a term
  -- of this size is several times dearer)
  cases ev <;> simp only [step?, Option.ite_none_left_eq_some, Option.ite_none_right_eq_some, Option.some.injEq,
    Bool.and_eq_true, Bool.or_eq_true, beq_iff_eq, bne_iff_ne, List.contains_eq_mem, decide_eq_true_eq, List.isEmpty_iff,
    Bool.not_eq_true', Bool.not_eq_true] at h
  case pickReal v =>
    obtain ⟨_, ⟨⟨⟨⟨hv, hm⟩, hr⟩, hp⟩, he⟩, rfl⟩ := h
    exact .of_vertex (.pickReal hv hm hr hp he) nofun (report_nil _).symm
  case pickSkip v =>
    obtain ⟨_, ⟨⟨⟨hv, hm⟩, hr⟩, hp⟩, rfl⟩ := h
    exact .of_vertex (.pickSkip hv hm hr hp) nofun (report_nil _).symm
  case pickErr v =>
    obtain ⟨_, ⟨⟨⟨⟨hv, hm⟩, hr⟩, hp⟩, he⟩, rfl⟩ := h
    exact .of_vertex (.pickErr hv hm hr hp (by simpa using he)) nofun (report_nil _).symm
  case recv v r =>
    obtain ⟨_, ⟨hv, hr⟩, h⟩ := h
    have hv : VStep c s v (.recv v r) ((s.get v).recv r) := .recv r hv hr
    cases r <;> (simp only [Option.some.injEq] at h; subst h)
    · exact .of_vertex hv nofun (report_nil _).symm
    · exact .of_vertex hv nofun rfl
    · exact .skip hv
    · exact .of_vertex hv nofun rfl
  case cancel => obtain ⟨_, hc, rfl⟩ := h; exact .cancel hc
  case idle =>
    obtain ⟨_, hd, hn, rfl⟩ := h
    refine .idle hd ?_
    cases hm : mayPick c s with
    | false => exact .inl rfl
    | true => exact .inr fun v hv => Bool.eq_false_iff.mpr fun hr => hn ⟨hm, List.any_eq_true.mpr ⟨v, hv, hr⟩⟩
  case exit => obtain ⟨_, hd, rfl⟩ := h; exact .exit hd
  case semAcq v =>
    obtain ⟨_, ⟨hf, hh⟩, rfl⟩ := h
    exact .of_vertex (.semAcq hf hh) nofun (report_nil _).symm
  case lockAcq v =>
    obtain ⟨_, hf, rfl⟩ := h
    exact .of_vertex (.lockAcq hf) nofun (report_nil _).symm
  case enter v k =>
    obtain ⟨_, ⟨hf, hk⟩, rfl⟩ := h
    exact .of_vertex (.enter k hf hk) nofun (report_nil _).symm
  case leave v k r =>
    obtain ⟨_, ⟨hf, hr⟩, h⟩ := h
    by_cases hl : r = .ok ∨ (k : Int) ≥ c.g.retriesOf v
    · rw [if_pos hl, Option.some.injEq] at h; subst h
      exact .of_vertex (.leaveSend k r hf hr hl) nofun (report_nil _).symm
    · rw [if_neg hl, Option.some.injEq] at h; subst h
      exact .of_vertex (.leaveRetry k r hf hr ⟨fun e => hl (.inl e), Int.lt_of_not_ge fun e => hl (.inr e)⟩) nofun
        (report_nil _).symm
  case semRel v =>
    obtain ⟨_, ⟨hs, hf⟩, rfl⟩ := h
    refine .of_vertex (.semRel hs (hf.imp_right fun hf => ?_)) nofun (report_nil _).symm
    cases hfl : (s.get v).fl <;> simp [hfl] at hf
    exact ⟨_, rfl⟩

theorem step?_eq_none (h : ∀ s', ¬ Step c s ev s') : step? c s ev = none := by
  cases hs : step? c s ev with
  | none => rfl
  | some s' => exact absurd (step?_step hs) (h s')

theorem Step.errs (h : Step c s ev s') : s'.errs = s.errs ++ (entryOf ev).toList := by
  cases h <;> simp [entryOf, markAncestors_errs]

theorem VStep.ne_exit (h : VStep c s v ev x) : ev ≠ .exit := by rintro rfl; cases h

theorem Step.exited (h : Step c s ev s') : s'.exited = (s.exited || ev == .exit) := by
  cases h with
  | vertex hv _ => simp [hv.ne_exit]
  | skip | cancel | idle => simp [markAncestors_exited]
  | exit => simp

/-- the vertices an event marks -/
def marks (c : Cfg) : Event → List Nat
  | .recv v .skipParents => anc c v
  | _ => []

theorem VStep.marks_nil (h : VStep c s v ev x) (hn : ev ≠ .recv v .skipParents) : marks c ev = [] := by
  cases h with
  | recv r => cases r with
    | skipParents => exact absurd rfl hn
    | _ => rfl
  | _ => rfl

theorem marks_closed (hc : AncOK c) {y q : Nat} (hy : y ∈ marks c ev) (hq : q ∈ c.g.parents y) : q ∈ marks c ev := by
  unfold marks at hy ⊢; split at hy
  · exact hc.closed _ _ _ hy hq
  · cases hy

/-- Every vertex stays as it was or makes its own move; the vertices the event marks are marked afterwards. -/
theorem Step.get_eq (h : Step c s ev s') (y : Nat) :
    ∃ x, (x = s.get y ∨ VStep c s y ev x) ∧ s'.get y = if y ∈ marks c ev then markOne x else x := by
  have set : ∀ {v x} {ev : Event}, VStep c s v ev x →
      (s.set v x).get y = s.get y ∨ VStep c s y ev ((s.set v x).get y) := by
    intro v x ev hv
    by_cases e : y = v
    · subst e; rw [get_set_same]; exact .inr hv
    · exact .inl (get_set_ne _ _ _ _ e)
  cases h with
  | vertex hv hn => exact ⟨_, set hv, by simp [hv.marks_nil hn]⟩
  | skip hv => exact ⟨_, set hv, markAncestors_get ..⟩
  | cancel | idle | exit => exact ⟨s.get y, .inl rfl, (if_neg (by simp [marks])).symm⟩

/-- A property of single vertices that survives the vertex' own moves and the marking holds after the step where
it held before. -/
theorem Step.lift {P : VState → Prop} (h : Step c s ev s') (y : Nat) (h0 : P (s.get y))
    (hv : ∀ x, VStep c s y ev x → P x) (hm : ∀ x, P x → P (markOne x)) : P (s'.get y) := by
  obtain ⟨x, hx, e⟩ := h.get_eq y
  have : P x := hx.elim (fun e => e ▸ h0) (hv x)
  rw [e]; split
  · exact hm x this
  · exact this

theorem accept_cons_ok {evs : List Event} {i : Nat} :
    accept c s (ev :: evs) i = .ok s' ↔ ∃ s1, step? c s ev = some s1 ∧ accept c s1 evs (i + 1) = .ok s' := by
  rw [accept]; split <;> simp_all

theorem accept_induct {P : Sched → Prop} (hstep : ∀ s s' ev, P s → step? c s ev = some s' → P s')
    (evs : List Event) (s s' : Sched) (i : Nat) (h : P s) (ha : accept c s evs i = .ok s') : P s' := by
  induction evs generalizing s i with
  | nil => simp [accept] at ha; exact ha ▸ h
  | cons ev evs ih =>
    obtain ⟨s1, hs1, ha⟩ := accept_cons_ok.mp ha
    exact ih s1 (i + 1) (hstep s s1 ev h hs1) ha

end GoModel.Dag
