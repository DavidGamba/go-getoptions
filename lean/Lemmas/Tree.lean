import Lemmas.Define
import Lemmas.Prog
/-! The tree of commands in the definition phase: copying options down the tree only touches `opts` (`shells`); the
command tables (`cmdsTab`, `kids`) change only where a command is attached (`attach`); their tree shape (`TreeWF`). -/
namespace GoModel

/-- a node without its option table -/
def Node.shell (n : Node) : Node := { n with opts := [] }
def Prog.shells (P : Prog) : List Node := P.nodes.map Node.shell

theorem shells_setNode_opts (P : Prog) (c : Nat) (X : List (Str × Nat)) :
    (P.setNode c { P.node c with opts := X }).shells = P.shells :=
  nodes_map_setNode Node.shell P c _ rfl

theorem node_shell_of_shells {P Q : Prog} (h : Q.shells = P.shells) (n : Nat) :
    (Q.node n).shell = (P.node n).shell :=
  node_of_nodes_map Node.shell h n

theorem copyOpts_shells (fuel : Nat) (P : Prog) (parent : Nat) : (copyOpts fuel P parent).shells = P.shells :=
  copyOpts_induct (I := fun Q => Q.shells = P.shells) (fun Q c _ hQ => (shells_setNode_opts Q c _).trans hQ)
    fuel P parent rfl

theorem node_of_shell_eq {a b : Node} (h : a.shell = b.shell) : a = { b with opts := a.opts } := by
  cases a; cases b
  simp only [Node.shell, Node.mk.injEq] at h ⊢
  simp only [h, and_self]

theorem copyOpts_node (fuel : Nat) (P : Prog) (parent n : Nat) :
    ∃ o, (copyOpts fuel P parent).node n = { P.node n with opts := o } :=
  ⟨_, node_of_shell_eq (node_shell_of_shells (copyOpts_shells fuel P parent) n)⟩

def Prog.cmdsTab (P : Prog) : List (List (Str × Nat)) := P.nodes.map (·.cmds)

theorem node_cmds_of_cmdsTab {P Q : Prog} (h : Q.cmdsTab = P.cmdsTab) (x : Nat) :
    (Q.node x).cmds = (P.node x).cmds :=
  node_of_nodes_map (·.cmds) h x

theorem cmdsTab_of_shells {P Q : Prog} (h : Q.shells = P.shells) : Q.cmdsTab = P.cmdsTab := by
  have : Q.shells.map (·.cmds) = P.shells.map (·.cmds) := by rw [h]
  simpa [Prog.shells, Prog.cmdsTab, Node.shell, Function.comp_def] using this

theorem cmdsTab_modNode (P : Prog) (n : Nat) (f : Node → Node) (hf : ∀ x, (f x).cmds = x.cmds) :
    (P.modNode n f).cmdsTab = P.cmdsTab :=
  nodes_map_setNode (·.cmds) P n _ (hf _)

theorem cmdsTab_opts (P : Prog) (os : List Opt) : ({ P with opts := os } : Prog).cmdsTab = P.cmdsTab := rfl
theorem cmdsTab_modOpt (P : Prog) (o : Nat) (f : Opt → Opt) : (P.modOpt o f).cmdsTab = P.cmdsTab := rfl

def kids (P : Prog) (x : Nat) : List Nat := (P.node x).cmds.map (·.2)

theorem kids_of_cmdsTab {P Q : Prog} (h : Q.cmdsTab = P.cmdsTab) (x : Nat) : kids Q x = kids P x := by
  simp [kids, node_cmds_of_cmdsTab h x]

theorem kids_of_shells {P Q : Prog} (h : Q.shells = P.shells) (x : Nat) : kids Q x = kids P x :=
  kids_of_cmdsTab (cmdsTab_of_shells h) x

/-- the node `attach` appends is `nd`, up to its command table if `p` is the new id itself -/
theorem attach_node_new (P : Prog) (p : Nat) (nd : Node) :
    ∃ c, (attach P p nd).node P.nodes.length = { nd with cmds := c } := by
  unfold attach
  rw [node_modNode]
  split
  · rename_i hc
    rw [← hc.1, node_append_new]
    exact ⟨_, rfl⟩
  · rw [node_append_new]
    exact ⟨nd.cmds, rfl⟩

theorem attach_node (P : Prog) (p : Nat) (nd : Node) (hp : p < P.nodes.length) (x : Nat) :
    (attach P p nd).node x =
      if x = p then { P.node p with cmds := (P.node p).cmds ++ [(nd.name, P.nodes.length)] }
      else if x < P.nodes.length then P.node x else if x = P.nodes.length then nd else dummyNode := by
  unfold attach Prog.modNode
  rw [node_setNode, node_append, node_append]
  have hlen : ({ P with nodes := P.nodes ++ [nd] } : Prog).nodes.length = P.nodes.length + 1 := by simp
  by_cases hx : x = p
  · subst hx; simp [hp, hlen]; omega
  · simp [hx]

theorem attach_kids (P : Prog) (p : Nat) (nd : Node) (hp : p < P.nodes.length) (hnc : nd.cmds = []) (x : Nat) :
    kids (attach P p nd) x =
      if x = p then kids P p ++ [P.nodes.length] else if x < P.nodes.length then kids P x else [] := by
  unfold kids
  rw [attach_node P p nd hp]
  by_cases hx : x = p
  · simp [hx]
  · by_cases h1 : x < P.nodes.length
    · simp [hx, h1]
    · by_cases h2 : x = P.nodes.length
      · subst h2
        have : ¬ P.nodes.length = p := by omega
        simp [this, hnc]
      · simp [hx, h1, h2, dummyNode]

theorem attach_length (P : Prog) (p : Nat) (nd : Node) : (attach P p nd).nodes.length = P.nodes.length + 1 := by
  simp [attach, Prog.modNode, Prog.setNode]

/-- a property of the nodes (which may mention the id) holds after `attach` if it holds of the parent with the
new entry, of the old nodes, of the new node, and of the dummy node beyond it -/
theorem attach_forall {Q : Nat → Node → Prop} (P : Prog) (p : Nat) (nd : Node) (hp : p < P.nodes.length)
    (hpar : Q p { P.node p with cmds := (P.node p).cmds ++ [(nd.name, P.nodes.length)] })
    (hold : ∀ x, x < P.nodes.length → Q x (P.node x)) (hnew : Q P.nodes.length nd)
    (hdum : ∀ x, Q x dummyNode) (x : Nat) : Q x ((attach P p nd).node x) := by
  rw [attach_node P p nd hp]
  by_cases h1 : x = p
  · rw [if_pos h1, h1]; exact hpar
  rw [if_neg h1]
  by_cases h2 : x < P.nodes.length
  · rw [if_pos h2]; exact hold x h2
  rw [if_neg h2]
  by_cases h3 : x = P.nodes.length
  · rw [if_pos h3, h3]; exact hnew
  · rw [if_neg h3]; exact hdum x

/-- tree shape of the command tables: every registered child exists and has a larger id than its parent -/
structure TreeWF (P : Prog) : Prop where
  ordered : ∀ x c, c ∈ kids P x → x < c
  bounded : ∀ x c, c ∈ kids P x → c < P.nodes.length

theorem treeWF_of_cmdsTab {P Q : Prog} (h : Q.cmdsTab = P.cmdsTab) (w : TreeWF P) : TreeWF Q := by
  constructor
  · intro x c hc; rw [kids_of_cmdsTab h] at hc; exact w.ordered x c hc
  · intro x c hc; rw [kids_of_cmdsTab h] at hc; rw [length_of_nodes_map (·.cmds) h]; exact w.bounded x c hc

theorem attach_wf (P : Prog) (p : Nat) (nd : Node) (hp : p < P.nodes.length) (hnc : nd.cmds = []) (h : TreeWF P) :
    TreeWF (attach P p nd) := by
  have key : ∀ x c, c ∈ kids (attach P p nd) x → x < c ∧ c < P.nodes.length + 1 :=
    attach_forall (Q := fun x n => ∀ c ∈ n.cmds.map Prod.snd, x < c ∧ c < P.nodes.length + 1) P p nd hp
      (fun c hc => by
        rw [List.map_append, List.mem_append] at hc
        rcases hc with hc | hc
        · exact ⟨h.ordered p c hc, Nat.lt_succ_of_lt (h.bounded p c hc)⟩
        · cases List.mem_singleton.mp hc; exact ⟨hp, Nat.lt_succ_self _⟩)
      (fun x _ c hc => ⟨h.ordered x c hc, Nat.lt_succ_of_lt (h.bounded x c hc)⟩)
      (fun c hc => by rw [hnc] at hc; cases hc)
      (fun _ c hc => by cases hc)
  exact ⟨fun x c hc => (key x c hc).1, fun x c hc => attach_length P p nd ▸ (key x c hc).2⟩

variable (ext : Ext)

/-- **A command created under a parent carries the parent's require-order flag, unknown-mode and
map-key setting** (whatever options are copied afterwards). -/
theorem cmd_inherits (env : Env) (st st' : BState) (h : Nat) (name desc : Str) (p : Nat)
    (hp : st.handles[h]? = some p)
    (hb : buildStep ext env st (.cmd h name desc) = .ok st') :
    st'.handles = st.handles ++ [st.P.nodes.length] ∧
    (st'.P.node st.P.nodes.length).requireOrder = (st.P.node p).requireOrder ∧
    (st'.P.node st.P.nodes.length).umode = (st.P.node p).umode ∧
    (st'.P.node st.P.nodes.length).mapKeysToLower = (st.P.node p).mapKeysToLower ∧
    (st'.P.node st.P.nodes.length).parent = some p ∧
    (st'.P.node st.P.nodes.length).name = name := by
  obtain ⟨p', hp', -, rfl⟩ := buildStep_cmd_ok hb
  cases hp.symm.trans hp'
  obtain ⟨o, ho⟩ := copyOpts_node (attach st.P p (newCmd st.P p name desc)).nodes.length
    (attach st.P p (newCmd st.P p name desc)) p st.P.nodes.length
  obtain ⟨c, hc⟩ := attach_node_new st.P p (newCmd st.P p name desc)
  refine ⟨rfl, ?_⟩
  rw [ho, hc]
  exact ⟨rfl, rfl, rfl, rfl, rfl⟩

end GoModel
