import Model.Parse
/-! The candidate list of the option completion, entry by entry. -/
namespace GoModel

variable (ext : Ext)

/-- the candidates one table entry contributes (independent of the other entries) -/
def candsOfKey (target : Str) (P : Prog) (w part : Str) (kv : Str × Nat) : List Str :=
  let k := kv.1
  let o := P.opt kv.2
  if k == [chDash] then (if w == [chDash] then [k] else [])
  else
    (if hasPrefix k part then [b "--" ++ k ++ (if o.kind != .bool then [chEq] else [])] else []) ++
    (if containsByte part chEq && hasPrefix part (k ++ [chEq]) then
      (if o.suggested.isEmpty then [] else valueCands target k w o.suggested) ++
      (match o.suggestFn with
       | some f => valueCands target k w (ext.valueFn f target (afterEq w))
       | none => [])
     else [])

/-- the entry sets `lastOpt` -/
def hitKey (part : Str) (kv : Str × Nat) : Bool :=
  !(kv.1 == [chDash]) && (hasPrefix kv.1 part || (containsByte part chEq && hasPrefix part (kv.1 ++ [chEq])))

/-- `lastOpt` after the loop: the option of the last entry that is hit -/
def lastHit (part : Str) (l : List (Str × Nat)) (a : Option Nat) : Option Nat :=
  l.foldl (fun a kv => if hitKey part kv then some kv.2 else a) a

/-- one iteration of the loop over the option table: the entry's own candidates are appended, and
`lastOpt` is overwritten iff the entry is hit -/
theorem optCandStep_eq (target : Str) (P : Prog) (w part : Str) (acc : List Str × Option Nat) (kv : Str × Nat) :
    optCandStep ext target P w part acc kv =
      (acc.1 ++ candsOfKey ext target P w part kv, if hitKey part kv then some kv.2 else acc.2) := by
  obtain ⟨k, oid⟩ := kv
  unfold optCandStep candsOfKey hitKey
  by_cases hk : (k == [chDash]) = true
  · by_cases hw : (w == [chDash]) = true <;> simp [hk, hw]
  · by_cases h1 : hasPrefix k part = true <;>
    by_cases h2 : (containsByte part chEq && hasPrefix part (k ++ [chEq])) = true <;>
    simp [hk, h1, h2] <;> cases (P.opt oid).suggestFn <;> rfl

theorem optCand_fold (target : Str) (P : Prog) (w part : Str) (l : List (Str × Nat)) (acc : List Str × Option Nat) :
    l.foldl (optCandStep ext target P w part) acc =
      (acc.1 ++ l.flatMap (candsOfKey ext target P w part), lastHit part l acc.2) := by
  induction l generalizing acc with
  | nil => simp [lastHit]
  | cons kv l ih => rw [List.foldl_cons, ih, optCandStep_eq]; simp [lastHit]

/-- the candidate list built by the loop over the option table is the concatenation of the
per-entry contributions, in iteration order -/
theorem optCand_fst (target : Str) (P : Prog) (w part : Str) (l : List (Str × Nat)) (acc : List Str × Option Nat) :
    (l.foldl (optCandStep ext target P w part) acc).1 = acc.1 ++ l.flatMap (candsOfKey ext target P w part) := by
  rw [optCand_fold]

/-- an entry that is not hit contributes at most the lonesome dash -/
theorem candsOfKey_of_not_hit (target : Str) (P : Prog) (w part : Str) (kv : Str × Nat)
    (h : hitKey part kv = false) : ∀ c ∈ candsOfKey ext target P w part kv, c = [chDash] := by
  unfold hitKey at h
  unfold candsOfKey
  by_cases hk : (kv.1 == [chDash]) = true
  · have : kv.1 = [chDash] := by simpa using hk
    simp only [hk, ↓reduceIte]
    split <;> simp [this]
  · simp only [hk, Bool.not_false, Bool.true_and, Bool.or_eq_false_iff] at h
    simp [hk, h.1, h.2]

theorem lastHit_none (part : Str) (l : List (Str × Nat)) (a : Option Nat) :
    lastHit part l a = none → a = none ∧ ∀ kv ∈ l, hitKey part kv = false := by
  induction l generalizing a with
  | nil => intro h; exact ⟨h, by simp⟩
  | cons kv l ih =>
    intro h
    have := ih _ h
    by_cases hh : hitKey part kv = true
    · simp [hh] at this
    · simp only [hh, Bool.false_eq_true, ↓reduceIte] at this
      exact ⟨this.1, by simpa [hh] using this.2⟩

/-- the single-candidate hint of the option completion -/
def finishOpt (P : Prog) (cs : List Str) (last : Option Nat) : List Str :=
  match cs, last with
  | [c], some oid =>
    if hasSuffix c [chEq] then
      let o := P.opt oid
      let extra :=
        if !o.suggested.isEmpty then o.suggested.map fun e => c ++ e
        else [c ++ (if o.helpArgName.isEmpty then b "<value>" else b "<" ++ o.helpArgName ++ b ">")]
      sortStrs (cs ++ extra)
    else cs
  | _, _ => cs

theorem optionCompletions_eq (target : Str) (P : Prog) (nd : Node) (w : Str) :
    optionCompletions ext target P nd w =
      finishOpt P (sortStrs (nd.opts.foldl (optCandStep ext target P w (trimDash (trimDash w))) ([], none)).1)
        (nd.opts.foldl (optCandStep ext target P w (trimDash (trimDash w))) ([], none)).2 := rfl

theorem finishOpt_two (P : Prog) (cs : List Str) (last : Option Nat) (h : 2 ≤ cs.length) : finishOpt P cs last = cs := by
  match cs, h with
  | _ :: _ :: _, _ => rfl

end GoModel
