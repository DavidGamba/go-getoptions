import Lemmas.SchedRel
/-!
# A Task shared by two graphs that run concurrently never executes twice at the same time

The task goroutine of `dag.Run` does `v.Task.Lock(); defer v.Task.Unlock()` before the first attempt, so it holds the
Task's mutex from the `lockAcq` event until it has handed over its result.  Two graphs that contain the same
`*Task` (same id here) run as two copies of the scheduler LTS; the only coupling is the mutex: a `lockAcq v` of one
graph is possible only while the other graph's goroutine for `v` does not hold it (that is what `sync.Mutex`
guarantees — the assumption of this file).  Then in every reachable state of the pair at most one of the two is
inside the task's function.
-/
namespace GoModel.Dag

/-- the goroutine of `v` holds the Task's mutex: after `lockAcq`, until its result has been received -/
def holdsLock (s : Sched) (v : Nat) : Bool :=
  match (s.get v).fl with
  | .idle _ | .running _ | .sending _ => true
  | _ => false

theorem holdsLock_errs (s : Sched) (e : List Entry) (cn : Bool) (v : Nat) :
    holdsLock { s with errs := e, cancelled := cn } v = holdsLock s v := rfl

/-- `holdsLock` read off the state of the vertex: `holdsLock s v` is `(s.get v).holds` by unfolding, which the proofs
below use without saying -/
def VState.holds (x : VState) : Bool :=
  match x.fl with
  | .idle _ | .running _ | .sending _ => true
  | _ => false

theorem VState.recv_holds (x : VState) (r : Res) (h : (x.recv r).holds = true) : x.holds = true := by
  unfold VState.recv at h; split at h
  · cases h
  · exact h

theorem VStep.holds {c : Cfg} {s : Sched} {ev : Event} {v : Nat} {x : VState} (h : VStep c s v ev x)
    (hx : x.holds = true) : (s.get v).holds = true ∨ ev = .lockAcq v := by
  cases h with
  | lockAcq => exact .inr rfl
  | pickReal | semAcq => cases hx
  | pickSkip | pickErr | semRel => exact .inl hx
  | recv r => exact .inl (VState.recv_holds _ r hx)
  | enter _ hf | leaveSend _ _ hf | leaveRetry _ _ hf => exact .inl (by simp [VState.holds, hf])

/-- **One event can make a goroutine a lock holder only by being its `lockAcq`.** -/
theorem step_holds (c : Cfg) (s s' : Sched) (ev : Event) (v : Nat)
    (h : step? c s ev = some s') (hl : holdsLock s' v = true) :
    holdsLock s v = true ∨ ev = .lockAcq v :=
  (step?_step h).lift v (P := fun x => x.holds = true → holdsLock s v = true ∨ ev = .lockAcq v)
    .inl (fun _ hv => hv.holds) (fun _ hx => hx) hl

/-- a vertex whose function is executing holds the lock -/
theorem running_holds (s : Sched) (v k : Nat) (h : (s.get v).fl = .running k) : holdsLock s v = true := by
  simp [holdsLock, h]

/-- one step of the pair: an event of the first or of the second graph; acquiring the mutex of task `v` needs the
other graph's goroutine for `v` not to hold it -/
inductive PairStep (c1 c2 : Cfg) : Sched × Sched → Sched × Sched → Prop
  | left (s1 s2 s1' : Sched) (ev : Event) (h : step? c1 s1 ev = some s1')
      (hm : ∀ v, ev = .lockAcq v → holdsLock s2 v = false) : PairStep c1 c2 (s1, s2) (s1', s2)
  | right (s1 s2 s2' : Sched) (ev : Event) (h : step? c2 s2 ev = some s2')
      (hm : ∀ v, ev = .lockAcq v → holdsLock s1 v = false) : PairStep c1 c2 (s1, s2) (s1, s2')

inductive PairReachable (c1 c2 : Cfg) : Sched × Sched → Prop
  | init : PairReachable c1 c2 (initSched, initSched)
  | step (p q : Sched × Sched) (hp : PairReachable c1 c2 p) (hs : PairStep c1 c2 p q) : PairReachable c1 c2 q

/-- the mutex is held by at most one of the two goroutines of a task -/
def Exclusive (p : Sched × Sched) : Prop := ∀ v, ¬ (holdsLock p.1 v = true ∧ holdsLock p.2 v = true)

theorem exclusive_init : Exclusive (initSched, initSched) := by
  intro v h; simp [holdsLock, initSched, Sched.get] at h

theorem exclusive_step (c1 c2 : Cfg) (p q : Sched × Sched) (he : Exclusive p) (hs : PairStep c1 c2 p q) :
    Exclusive q := by
  intro v hv
  cases hs with
  | left s1 s2 s1' ev h hm =>
    rcases step_holds c1 s1 s1' ev v h hv.1 with h1 | h1
    · exact he v ⟨h1, hv.2⟩
    · have := hm v h1; rw [this] at hv; exact absurd hv.2 (by simp)
  | right s1 s2 s2' ev h hm =>
    rcases step_holds c2 s2 s2' ev v h hv.2 with h1 | h1
    · exact he v ⟨hv.1, h1⟩
    · have := hm v h1; rw [this] at hv; exact absurd hv.1 (by simp)

theorem reachable_exclusive (c1 c2 : Cfg) (p : Sched × Sched) (hr : PairReachable c1 c2 p) : Exclusive p := by
  induction hr with
  | init => exact exclusive_init
  | step p q _ hs ih => exact exclusive_step c1 c2 p q ih hs

end GoModel.Dag
