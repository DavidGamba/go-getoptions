import Lemmas.Tree
import Lemmas.Lookup
/-! Invariants of every program built through the definition API: the command tables form a tree
(children exist and have larger ids), every option table has distinct keys, every handle is a node. -/
namespace GoModel

/-- every option table has distinct keys (it is a Go map) -/
def KInv (P : Prog) : Prop := ∀ n, ((P.node n).opts.map (·.1)).Nodup

theorem kinv_setNode (P : Prog) (n : Nat) (x : Node) (h : KInv P) (hx : (x.opts.map (·.1)).Nodup) :
    KInv (P.setNode n x) := by
  intro k
  rw [node_setNode]
  split
  · exact hx
  · exact h k

structure PInv (P : Prog) : Prop where
  tree : TreeWF P
  keys : KInv P

theorem pinv_modNode (P : Prog) (n : Nat) (f : Node → Node) (h : PInv P)
    (hc : ∀ x, (f x).cmds = x.cmds) (ho : (((f (P.node n)).opts).map (·.1)).Nodup) : PInv (P.modNode n f) :=
  ⟨treeWF_of_cmdsTab (cmdsTab_modNode P n f hc) h.tree, kinv_setNode P n _ h.keys ho⟩

theorem pinv_opts (P : Prog) (os : List Opt) (h : PInv P) : PInv { P with opts := os } :=
  ⟨⟨h.tree.ordered, h.tree.bounded⟩, h.keys⟩

variable (ext : Ext) (env : Env)

variable {ext env} in
theorem defineOpt_inv {P P' : Prog} {n : Nat} {kind : Kind} {name : Str} {dflt : Val} {dstr : Str}
    {mn mx : Int} {mods : List Mod} (h : PInv P)
    (hr : defineOpt ext env P n kind name dflt dstr mn mx mods = .ok P') :
    PInv P' ∧ P'.nodes.length = P.nodes.length :=
  defineOpt_induct (I := fun Q => PInv Q ∧ Q.nodes.length = P.nodes.length)
    (fun Q os i => ⟨pinv_opts Q os i.1, i.2⟩)
    (fun Q key oid hfree i =>
      ⟨pinv_modNode Q n _ i.1 (fun _ => rfl) (keys_nodup_append _ key oid (i.1.keys n) hfree),
       (length_modNode Q n _).trans i.2⟩) hr ⟨h, rfl⟩

theorem copyOpts_kinv (fuel : Nat) (P : Prog) (a : Nat) (h : KInv P) : KInv (copyOpts fuel P a) :=
  copyOpts_induct (fun Q c l hQ => kinv_setNode Q c _ hQ (foldl_insertKV_nodup l _ (hQ c))) fuel P a h

theorem copyOpts_pinv (fuel : Nat) {P : Prog} (a : Nat) (h : PInv P) :
    PInv (copyOpts fuel P a) ∧ (copyOpts fuel P a).nodes.length = P.nodes.length :=
  ⟨⟨treeWF_of_cmdsTab (cmdsTab_of_shells (copyOpts_shells fuel P a)) h.tree, copyOpts_kinv fuel P a h.keys⟩,
   length_of_nodes_map Node.shell (copyOpts_shells fuel P a)⟩

theorem attach_kinv (P : Prog) (p : Nat) (nd : Node) (hp : p < P.nodes.length) (hno : nd.opts = [])
    (h : KInv P) : KInv (attach P p nd) :=
  attach_forall (Q := fun _ n => (n.opts.map Prod.fst).Nodup) P p nd hp (h p) (fun x _ => h x)
    (by rw [hno]; exact List.nodup_nil) (fun _ => List.nodup_nil)

theorem attach_pinv (P : Prog) (p : Nat) (nd : Node) (hp : p < P.nodes.length) (hnc : nd.cmds = [])
    (hno : nd.opts = []) (h : PInv P) : PInv (attach P p nd) :=
  ⟨attach_wf P p nd hp hnc h.tree, attach_kinv P p nd hp hno h.keys⟩

theorem addHelpCmds_inv {name : Str} {ns : List Nat} {P P' : Prog} (h : PInv P)
    (hns : ∀ n ∈ ns, n < P.nodes.length) (hr : addHelpCmds name ns P = .ok P') :
    PInv P' ∧ P.nodes.length ≤ P'.nodes.length :=
  addHelpCmds_induct (I := fun Q => PInv Q ∧ P.nodes.length ≤ Q.nodes.length)
    (fun Q n nd hn hnc hno _ i =>
      ⟨attach_pinv Q n nd (Nat.lt_of_lt_of_le (hns n hn) i.2) hnc hno i.1,
       by rw [attach_length]; exact Nat.le_succ_of_le i.2⟩) hr ⟨h, Nat.le_refl _⟩

theorem subtree_bound (fuel : Nat) (P : Prog) (n : Nat) (w : TreeWF P) (hn : n < P.nodes.length) :
    ∀ x ∈ subtree fuel P n, x < P.nodes.length := by
  induction fuel generalizing n with
  | zero => intro x hx; simp [subtree] at hx; omega
  | succ fuel ih =>
    intro x hx
    simp only [subtree, List.mem_cons, List.mem_flatMap] at hx
    rcases hx with hx | ⟨c, hc, hx⟩
    · omega
    · exact ih c (w.bounded n c hc) x hx

theorem markHelp_inv (name : Str) (xs : List Nat) {P : Prog} (h : PInv P) :
    PInv (markHelp name xs P) ∧ (markHelp name xs P).nodes.length = P.nodes.length :=
  markHelp_induct (I := fun Q => PInv Q ∧ Q.nodes.length = P.nodes.length) name
    (fun Q x i => ⟨pinv_modNode Q x _ i.1 (fun _ => rfl) (i.1.keys x), (length_modNode Q x _).trans i.2⟩)
    xs P ⟨h, rfl⟩

structure BInvT (st : BState) : Prop where
  prog : PInv st.P
  handles : ∀ (h p : Nat), st.handles[h]? = some p → p < st.P.nodes.length

theorem binv_modNode (st : BState) (n : Nat) (f : Node → Node) (h : BInvT st)
    (hc : ∀ x, (f x).cmds = x.cmds) (ho : (((f (st.P.node n)).opts).map (·.1)).Nodup) :
    BInvT { st with P := st.P.modNode n f } :=
  ⟨pinv_modNode st.P n f h.prog hc ho, fun hh p hp => by rw [length_modNode]; exact h.handles hh p hp⟩

theorem buildStep_inv (st st' : BState) (op : DefOp) (h : BInvT st)
    (hr : buildStep ext env st op = .ok st') : BInvT st' := by
  refine buildStep_cases (motive := BInvT) hr ?_ ?_ ?_ ?_
  · intro _ n f _ hc ho
    refine binv_modNode st n f h hc ?_
    rcases ho (st.P.node n) with e | e <;> rw [e]
    · exact h.prog.keys n
    · exact List.nodup_nil
  · intro _ n kind name dflt dstr mn mx mods P' _ hP
    have i := defineOpt_inv h.prog hP
    exact ⟨i.1, fun hh p hp => by rw [i.2]; exact h.handles hh p hp⟩
  · intro hd p name desc hp _
    have i := copyOpts_pinv (attach st.P p (newCmd st.P p name desc)).nodes.length p
      (attach_pinv st.P p (newCmd st.P p name desc) (h.handles hd p hp) rfl rfl h.prog)
    refine ⟨i.1, fun hh q hq => ?_⟩
    show q < (copyOpts _ _ p).nodes.length
    rw [i.2, attach_length]
    rw [List.getElem?_append] at hq
    split at hq
    · exact Nat.lt_succ_of_lt (h.handles hh q hq)
    · have := List.mem_of_getElem? hq; simp at this; omega
  · intro hd n name mods P1 P3 hn hP1 hP3
    have i1 := defineOpt_inv h.prog hP1
    have i2 := markHelp_inv name (subtree P1.nodes.length P1 n) i1.1
    have l2 := i2.2.trans i1.2
    have i3 := addHelpCmds_inv i2.1
      (subtree_bound P1.nodes.length _ n i2.1.tree (by rw [l2]; exact h.handles hd n hn)) hP3
    have i4 := copyOpts_pinv P3.nodes.length n i3.1
    refine ⟨i4.1, fun hh p hp => ?_⟩
    show p < (copyOpts _ _ n).nodes.length
    rw [i4.2]
    exact Nat.lt_of_lt_of_le (h.handles hh p hp) (l2 ▸ i3.2)

theorem emptyProg_inv (root : Str) : BInvT (emptyProg root) := by
  have hk : ∀ x, kids (emptyProg root).P x = [] := by
    intro x
    unfold kids Prog.node emptyProg
    cases x <;> simp [dummyNode]
  refine ⟨⟨⟨?_, ?_⟩, ?_⟩, ?_⟩
  · intro x c hc; rw [hk] at hc; cases hc
  · intro x c hc; rw [hk] at hc; cases hc
  · intro n
    unfold Prog.node emptyProg
    cases n <;> simp [dummyNode]
  · intro h p hp
    cases h with
    | zero => simp [emptyProg] at hp ⊢; omega
    | succ k => simp [emptyProg] at hp

theorem buildB_inv (root : Str) (script : List DefOp) (st : BState)
    (hr : buildB ext env root script = .ok st) : BInvT st :=
  buildFrom_induct (fun s s' op hs i => buildStep_inv ext env s s' op i hs) script hr (emptyProg_inv root)

end GoModel
