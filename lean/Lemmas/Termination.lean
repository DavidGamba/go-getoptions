import Lemmas.SchedMore
/-! Termination of `Run` up to idle polling: every scheduler event other than `idle` strictly
decreases a lexicographic rank, on every state satisfying the scheduler invariant. -/
namespace GoModel.Dag

theorem sum_map_update_le (l : List Nat) (v : Nat) (f g : Nat → Nat) (h : ∀ y, y ≠ v → g y = f y)
    (hle : g v ≤ f v) : (l.map g).sum ≤ (l.map f).sum := by
  induction l with
  | nil => simp
  | cons a r ih =>
    simp only [List.map_cons, List.sum_cons]
    by_cases hav : a = v
    · subst hav; omega
    · rw [h a hav]; omega

theorem sum_map_update_lt (l : List Nat) (v : Nat) (f g : Nat → Nat) (hv : v ∈ l)
    (h : ∀ y, y ≠ v → g y = f y) (hlt : g v < f v) : (l.map g).sum < (l.map f).sum := by
  obtain ⟨s, t, rfl⟩ := List.append_of_mem hv
  have hs := sum_map_update_le s v f g h (Nat.le_of_lt hlt)
  have ht := sum_map_update_le t v f g h (Nat.le_of_lt hlt)
  simp only [List.map_append, List.map_cons, List.sum_append_nat, List.sum_cons]
  omega

theorem countP_lt_of_imp (l : List Nat) (p q : Nat → Bool) (himp : ∀ y, q y = true → p y = true)
    (v : Nat) (hv : v ∈ l) (hp : p v = true) (hq : q v = false) : l.countP q < l.countP p := by
  obtain ⟨s, t, rfl⟩ := List.append_of_mem hv
  have hs : s.countP q ≤ s.countP p := List.countP_mono_left fun y _ => himp y
  have ht : t.countP q ≤ t.countP p := List.countP_mono_left fun y _ => himp y
  rw [List.countP_append, List.countP_append, List.countP_cons_of_pos hp, List.countP_cons_of_neg (by simp [hq])]
  omega

/-- Weight of a goroutine phase, with `R` retries allowed: `R + 1 - k` attempts are left at attempt `k`, each an `idle` and a
`running` phase, so up to the last attempt every step of the goroutine leads to a phase that weighs one less — except
`waitSem → waitLock`, which falls by 2 because acquiring the slot also adds the slot's 1 to `vw`.  Handing over the result
(`running k → sending r`) drops all that is left; the receipt of what is sent is paid for by `stw`. -/
def flw (R : Nat) : Flight → Nat
  | .none => 0
  | .waitSem => 2 * (R + 1) + 5
  | .waitLock => 2 * (R + 1) + 3
  | .idle k => 2 * (R + 1 - k) + 2
  | .running k => 2 * (R + 1 - k) + 1
  | .sending _ => 0

/-- Weight of a scheduler status: a pick (`pending`/`skip` → `inProgress`) must pay for the whole goroutine of the vertex
(`flw R .waitSem`) or for a pseudo completion, and for being `inProgress`. -/
def stw (R : Nat) : St → Nat
  | .pending => 2 * (R + 1) + 8
  | .skip => 2 * (R + 1) + 8
  | .inProgress => 1
  | .done => 0

/-- work a vertex can still cause -/
def vw (R : Nat) (x : VState) : Nat := stw R x.st + flw R x.fl + x.pseudo.length + (if x.sem then 1 else 0)

def Rof (c : Cfg) (v : Nat) : Nat := (c.g.retriesOf v).toNat

/-- the two last summands make `cancel` and `exit` lower the rank as well -/
def sigma (c : Cfg) (s : Sched) : Nat :=
  (c.g.ids.map fun v => vw (Rof c v) (s.get v)).sum + (if s.cancelled then 0 else 1) + (if s.exited then 0 else 1)

/-- may still complete as a real task (and then send `ErrorSkipParents`) -/
def kk (x : VState) : Bool := x.st == .pending || (x.real && x.st == .inProgress)

def kcount (c : Cfg) (s : Sched) : Nat := c.g.ids.countP fun v => kk (s.get v)

def rank (c : Cfg) (s : Sched) : Nat × Nat := (kcount c s, sigma c s)

def RankLt (a b : Nat × Nat) : Prop := Prod.Lex (· < ·) (· < ·) a b

/-- a change of one vertex of the graph that does not make it "real-capable" and lowers its work -/
theorem rank_set (c : Cfg) (s : Sched) (v : Nat) (x' : VState) (hv : v ∈ c.g.ids)
    (hk : kk x' = true → kk (s.get v) = true) (hw : vw (Rof c v) x' < vw (Rof c v) (s.get v)) (l : List Entry) :
    RankLt (rank c ((s.set v x').report l)) (rank c s) := by
  have hkle : kcount c ((s.set v x').report l) ≤ kcount c s := by
    unfold kcount
    apply List.countP_mono_left
    intro y _ hy
    rw [report_get, get_set] at hy
    split at hy
    · rename_i e; subst e; exact hk hy
    · exact hy
  have hsig : sigma c ((s.set v x').report l) < sigma c s := by
    unfold sigma
    have := sum_map_update_lt c.g.ids v (fun y => vw (Rof c y) (s.get y))
      (fun y => vw (Rof c y) (((s.set v x').report l).get y)) hv
      (fun y hy => by rw [report_get, get_set_ne _ _ _ _ hy]) (by rw [report_get, get_set_same]; exact hw)
    rw [report_cancelled, report_exited, set_cancelled, set_exited]
    omega
  unfold RankLt rank
  rcases Nat.lt_or_eq_of_le hkle with h | h
  · exact Prod.Lex.left _ _ h
  · rw [h]; exact Prod.Lex.right _ hsig

/-- goroutine state and semaphore slots exist only for vertices of the graph -/
def TInv (c : Cfg) (s : Sched) : Prop := ∀ v, c.g.has v = false → (s.get v).fl = .none ∧ (s.get v).sem = false

section
variable {c : Cfg} {s : Sched} {ev : Event} {v : Nat} {x : VState}

/-- the picks and `recv` test it; a goroutine event needs a flight or a slot, which only vertices of the graph have -/
theorem VStep.has (ht : TInv c s) (h : VStep c s v ev x) : c.g.has v = true := by
  cases hh : c.g.has v with
  | true => rfl
  | false => have := ht v hh; cases h <;> simp_all

/-- no event of a vertex makes it able to complete as a real task again -/
theorem VStep.kk_mono (h : VStep c s v ev x) (ho : VOk (s.get v)) (hk : kk x = true) : kk (s.get v) = true := by
  cases h with
  | pickReal _ _ _ hp | pickErr _ _ _ hp => simp [kk, hp]
  | pickSkip _ _ _ hp => simp [kk, (ho.a4 (ho.a1 hp)).2] at hk
  | recv r => simp [kk] at hk
  | _ => exact hk

/-- every event of a vertex lowers the work it can still cause -/
theorem VStep.vw_lt (h : VStep c s v ev x) (ho : VOk (s.get v)) :
    vw (Rof c v) x < vw (Rof c v) (s.get v) := by
  have hfl : (s.get v).st ≠ .inProgress → (s.get v).fl = .none := fun hn => ho.fl_none (.inr hn)
  cases h with
  | pickReal _ _ _ hp _ => simp [vw, stw, flw, hp, hfl (by simp [hp])]; omega
  | pickSkip _ _ _ hp => simp [vw, stw, flw, hp, hfl (by simp [hp])]; omega
  | pickErr _ _ _ hp _ => simp [vw, stw, flw, hp, hfl (by simp [hp])]; omega
  | recv r _ hr =>
    unfold VState.recv
    by_cases hs : (s.get v).fl = .sending r
    · simp [hs, vw, stw, flw, (ho.f (by simp [hs])).2]
    · have hm := hr.resolve_right hs
      have := List.length_erase_of_mem hm
      have := List.length_pos_of_mem hm
      have : stw (Rof c v) .done ≤ stw (Rof c v) (s.get v).st := by simp [stw]
      simp only [↓reduceIte, vw, *]; omega
  | semAcq hf _ => simp [vw, flw, hf]; split <;> omega
  | lockAcq hf => simp [vw, flw, hf]
  | enter _ hf _ => simp [vw, flw, hf]
  | leaveSend _ _ hf _ _ => simp [vw, flw, hf]
  | leaveRetry k _ hf _ hl =>
    have : k < Rof c v := by unfold Rof; omega
    simp [vw, flw, hf]; omega
  | semRel hs _ => simp [vw, hs]

end

theorem tinv_init (c : Cfg) : TInv c initSched := by
  intro v _; simp [initSched, Sched.get]

theorem tinv_step (c : Cfg) (s s' : Sched) (ev : Event) (ht : TInv c s) (hs : step? c s ev = some s') : TInv c s' :=
  fun y hy => (step?_step hs).lift y (P := fun x => x.fl = .none ∧ x.sem = false) (ht y hy)
    (fun _ hv => by rw [hv.has ht] at hy; cases hy) fun _ hx => hx

theorem reachable_tinv (c : Cfg) (s : Sched) (h : Reachable c s) : TInv c s :=
  h.induct (tinv_init c) (tinv_step c)

theorem kk_skip (x : VState) (h : x.st = .skip) : kk x = false := by simp [kk, h]

theorem rank_mark (c : Cfg) (s : Sched) (v : Nat) (x' : VState) (hv : v ∈ c.g.ids)
    (hkv : kk (s.get v) = true) (hx : x'.st = .done) :
    RankLt (rank c (markAncestors c (s.set v x') v)) (rank c s) := by
  unfold RankLt rank
  apply Prod.Lex.left
  unfold kcount
  have hq : ∀ y, kk ((markAncestors c (s.set v x') v).get y) = true → kk (s.get y) = true := by
    intro y hy
    rw [markAncestors_get] at hy
    split at hy
    · simp [kk, markOne] at hy
    · rw [get_set] at hy
      split at hy
      · simp [kk, hx] at hy
      · exact hy
  apply countP_lt_of_imp _ _ _ hq v hv hkv
  rw [markAncestors_get]
  split
  · simp [kk, markOne]
  · rw [get_set_same]; simp [kk, hx]

/-- **Every scheduler event other than the idle poll strictly decreases the rank.** -/
theorem rank_lt_of_step {c : Cfg} {s s' : Sched} {ev : Event} (h : SInv c s) (ht : TInv c s)
    (hs : step? c s ev = some s') (hne : ev ≠ .idle) : RankLt (rank c s') (rank c s) := by
  cases step?_step hs with
  | idle => exact absurd rfl hne
  | @vertex v _ x hv _ =>
    exact rank_set c s v x ((has_iff_mem_ids _ _).mp (hv.has ht)) (hv.kk_mono (h.vok v)) (hv.vw_lt (h.vok v)) _
  | @skip v x hv =>
    -- the sender was counted in `kcount` until now, the marked vertices never are
    cases hv with
    | recv _ hv hr =>
    have hf := (h.vok v).skip_sender hr
    exact rank_mark c s v _ ((has_iff_mem_ids _ _).mp hv) (by simp [kk, hf.1, hf.2]) (VState.recv_st ..)
  | cancel hc => exact .right _ (by simp [sigma, hc, Sched.get])
  | exit =>
    have : s.exited = false := Bool.eq_false_iff.mpr fun h => by obtain ⟨_, e⟩ := step?_exited hs h; cases e
    exact .right _ (by simp [sigma, this, Sched.get])

theorem step_rank (c : Cfg) (hg : GInv c.g) (s s' : Sched) (ev : Event) (h : SInv c s) (ht : TInv c s)
    (hs : step? c s ev = some s') (hne : ev ≠ .idle) : RankLt (rank c s') (rank c s) :=
  rank_lt_of_step h ht hs hne

/-- one scheduler move other than the idle poll, from a state `s` satisfying the invariants to `s'` (the target first:
the order `WellFounded` wants) -/
def Moves (c : Cfg) (s' s : Sched) : Prop :=
  SInv c s ∧ TInv c s ∧ ∃ ev, ev ≠ Event.idle ∧ step? c s ev = some s'

/-- every execution is finite up to idle polls, whose number between two other events is bounded by the tasks' running
time, outside the model -/
theorem moves_wf (c : Cfg) : WellFounded (Moves c) :=
  Subrelation.wf (r := InvImage RankLt (rank c)) (fun ⟨hsi, hti, _, hne, hst⟩ => rank_lt_of_step hsi hti hst hne)
    (InvImage.wf _ (Prod.lex Nat.lt_wfRel Nat.lt_wfRel).wf)

end GoModel.Dag
