import Lemmas.NodeSim
import Lemmas.Frame
/-! Require-order only matters at the stop point: as long as the parser has not stopped, it behaves
exactly as the same program with every require-order flag cleared. -/
namespace GoModel

variable (ext : Ext) (mode : Mode)

def Node.clearRO (n : Node) : Node := { n with requireOrder := false }
/-- the same program without require-order on any node -/
def Prog.clearRO (P : Prog) : Prog := { P with nodes := P.nodes.map Node.clearRO }
/-- the same parser state over the program without require-order -/
def PState.cl (s : PState) : PState := { s with P := s.P.clearRO }

theorem clearRO_node (P : Prog) (n : Nat) : P.clearRO.node n = (P.node n).clearRO :=
  getD_map Node.clearRO P.nodes n dummyNode

theorem clearRO_opt (P : Prog) (o : Nat) : P.clearRO.opt o = P.opt o := rfl

theorem clearRO_setOpt (P : Prog) (o : Nat) (x : Opt) : (P.setOpt o x).clearRO = P.clearRO.setOpt o x := rfl

/-- a node without its require-order flag reads the same, except that the parser does not stop there -/
theorem clearRO_sim {n n' : Node} (h : n' = n.clearRO) : NodeSim True n n' :=
  h ▸ ⟨fun _ => .refl _, fun _ => rfl, fun _ => rfl, rfl, rfl, .inr ⟨trivial, rfl⟩⟩

theorem overNodes_cl (s : PState) : OverNodes (fun n n' => n' = n.clearRO) (s.P.nodes.map Node.clearRO) s s.cl :=
  ⟨rfl, clearRO_node s.P⟩

/-- reading a result of `overNodes_stepRel` for `cl`: the loop never changes the node list -/
theorem cl_of_upto {s a a' : PState} (h : Upto True (OverNodes (fun n n' => n' = n.clearRO) (s.P.nodes.map Node.clearRO)) a a')
    (hn : a.P.nodes = s.P.nodes) (hs : a.ctx ≠ .stopped) : a' = a.cl := by
  rcases h with e | r
  · exact absurd e.2 hs
  · rw [r.1, ← hn]; rfl

theorem procPair_cl (s : PState) (p : Pair) (h : (procPair ext s p).ctx ≠ .stopped) :
    procPair ext s.cl p = (procPair ext s p).cl :=
  cl_of_upto (overNodes_procPair ext clearRO_sim _ p (overNodes_cl s))
    (procPair_moves (L := fun _ => True) (comp := none) ext s p trivial).shape.1 h

theorem step_cl (s : PState) (t : Str) (h : (step ext mode s t).ctx ≠ .stopped) :
    step ext mode s.cl t = (step ext mode s t).cl :=
  cl_of_upto ((overNodes_stepRel ext clearRO_sim _ none fun _ e => nomatch e).stepG mode t (overNodes_cl s))
    (step_moves' ext mode s t).shape.1 h

theorem run_cl (P : Prog) (pre : List Str) (h : (run ext mode P pre).ctx ≠ .stopped) :
    run ext mode P.clearRO pre = (run ext mode P pre).cl :=
  cl_of_upto ((overNodes_stepRel ext clearRO_sim _ none fun _ e => nomatch e).foldl mode pre
      (.inr (overNodes_cl (initState P))))
    (foldl_moves' ext mode pre _).shape.1 h

end GoModel
