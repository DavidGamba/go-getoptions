import Lemmas.StepRel
/-! The loop over another node list that reads the same: tables iterated in another order, require-order flags
cleared.  `NodeSim` says what "reads the same" means for one node; a state over such a node list (`OverNodes`) is
related to the original state in the sense of `StepRel`. -/
namespace GoModel

/-- the same parser state over the node list `N'` -/
def PState.wn (s : PState) (N' : List Node) : PState := { s with P := { s.P with nodes := N' } }

theorem wn_node (s : PState) (N' : List Node) (i : Nat) : (s.wn N').P.node i = N'.getD i dummyNode := rfl

/-- `n'` answers every question the loop asks of a node as `n` does: the same keys resolve (up to the order of the
candidates of an ambiguous one), the same table entries, the same unknown-mode and flags; with `esc` its
require-order flag may be cleared instead. -/
structure NodeSim (esc : Prop) (n n' : Node) : Prop where
  resolve : ∀ k, (resolve n k).Perm (resolve n' k)
  opts : ∀ k, lookup k n'.opts = lookup k n.opts
  cmds : ∀ k, lookup k n'.cmds = lookup k n.cmds
  umode : n'.umode = n.umode
  lower : n'.mapKeysToLower = n.mapKeysToLower
  ro : n'.requireOrder = n.requireOrder ∨ (esc ∧ n'.requireOrder = false)

namespace NodeSim
variable {esc : Prop} {n n' : Node} (h : NodeSim esc n n')
include h

theorem resolve_nil {k : Str} (hr : GoModel.resolve n k = []) : GoModel.resolve n' k = [] :=
  (hr ▸ h.resolve k).symm.eq_nil

theorem resolve_one {k key : Str} (hr : GoModel.resolve n k = [key]) : GoModel.resolve n' k = [key] :=
  (hr ▸ h.resolve k).symm.eq_singleton

theorem resolve_many {k k1 k2 : Str} {ks : List Str} (hr : GoModel.resolve n k = k1 :: k2 :: ks) :
    ∃ j1 j2 js, GoModel.resolve n' k = j1 :: j2 :: js ∧ sortStrs (j1 :: j2 :: js) = sortStrs (k1 :: k2 :: ks) := by
  have hp := h.resolve k
  rw [hr] at hp
  -- a permutation of a list of two or more has two or more elements: the shorter cases are excluded by the length
  match hr' : GoModel.resolve n' k, hp.length_eq with
  | j1 :: j2 :: js, _ => exact ⟨j1, j2, js, rfl, sortStrs_perm_eq _ _ (hr' ▸ hp).symm⟩

theorem ro_false (hro : n.requireOrder = false) : n'.requireOrder = false :=
  h.ro.elim (fun e => e.trans hro) fun e => e.2

end NodeSim

/-- `s'` is `s` over the node list `N'`, whose nodes are `Q`-related to those of `s` -/
def OverNodes (Q : Node → Node → Prop) (N' : List Node) (s s' : PState) : Prop :=
  s' = s.wn N' ∧ ∀ i, Q (s.P.node i) (N'.getD i dummyNode)

variable (ext : Ext) {esc : Prop} {Q : Node → Node → Prop} (hQ : ∀ {n n'}, Q n n' → NodeSim esc n n')
include hQ

theorem overNodes_procPair (N' : List Node) {s s' : PState} (p : Pair) (h : OverNodes Q N' s s') :
    Upto esc (OverNodes Q N') (procPair ext s p) (procPair ext s' p) := by
  obtain ⟨rfl, hn⟩ := h
  have hN : ∀ i, Q ((procPair ext s p).P.node i) (N'.getD i dummyNode) := fun i => by
    rw [(procPair_cur_nodes ext s p).2 i]; exact hn i
  have q : NodeSim esc (s.P.node s.cur) ((s.wn N').P.node (s.wn N').cur) := hQ (hn s.cur)
  have hn0 : ((s.wn N').P.node 0).mapKeysToLower = (s.P.node 0).mapKeysToLower := (hQ (hn 0)).lower
  have hm : ∀ oid key, matched (s.wn N') oid key = matched s oid key := fun oid key => by
    unfold matched; rw [hn0]; rfl
  -- the outcome of the run over the nodes of `s`, with the conditions under which the other run has the same
  have hsp := procPair_spec ext s p
  generalize procPair ext s p = r at hsp hN ⊢
  cases hsp with
  | roStop hr hro =>
    rcases q.ro with e | ⟨e, _⟩
    · rw [(ProcPair.roStop (ext := ext) (p := p) (q.resolve_nil hr) (e.trans hro)).eq]; exact .inr ⟨rfl, hN⟩
    · exact .inl ⟨e, rfl⟩
  | unknownKept hr hro hp =>
    rw [(ProcPair.unknownKept (ext := ext) (p := p) (q.resolve_nil hr) (q.ro_false hro)
      (by rw [q.umode]; exact hp)).eq, q.umode]
    exact .inr ⟨rfl, hN⟩
  | unknown hr hro hp =>
    rw [(ProcPair.unknown (ext := ext) (p := p) (q.resolve_nil hr) (q.ro_false hro)
      (by rw [q.umode]; exact hp)).eq, q.umode]
    exact .inr ⟨rfl, hN⟩
  | saveErr key oid e hr hl hs =>
    rw [(ProcPair.saveErr (p := p) key oid e (q.resolve_one hr) ((q.opts key).trans hl)
      (by rw [hn0, hm]; exact hs)).eq, hm]
    exact .inr ⟨rfl, hN⟩
  | saved key oid o' hr hl hs =>
    rw [(ProcPair.saved (p := p) key oid o' (q.resolve_one hr) ((q.opts key).trans hl)
      (by rw [hn0, hm]; exact hs)).eq]
    exact .inr ⟨rfl, hN⟩
  | ambiguous k1 k2 ks hr =>
    obtain ⟨j1, j2, js, hr', hs⟩ := q.resolve_many hr
    rw [(ProcPair.ambiguous (ext := ext) (p := p) j1 j2 js hr').eq, hs]
    exact .inr ⟨rfl, hN⟩

/-- `hc`: in completion mode the candidates computed from a node of `N'` are those of the node it stands for -/
theorem overNodes_stepRel (N' : List Node) (comp : Option Str)
    (hc : ∀ target, comp = some target → ∀ (P : Prog) (n n' : Node) (text : List Str) (w : Str), Q n n' →
      completionsAt ext target P n' text w = completionsAt ext target P n text w) :
    StepRel ext comp (OverNodes Q N') esc where
  err h := by rw [h.1]; rfl
  ctx h := by rw [h.1]; rfl
  pending h := by rw [h.1]; rfl
  bounds _ h := by rw [h.1]; exact ⟨rfl, rfl⟩
  setPending _ h := ⟨by rw [h.1]; rfl, h.2⟩
  setIdle h := ⟨by rw [h.1]; rfl, h.2⟩
  addText _ h := ⟨by rw [h.1]; rfl, h.2⟩
  headState _ h := ⟨by rw [h.1]; rfl, h.2⟩
  missingArg _ h := ⟨by rw [h.1]; rfl, h.2⟩
  dashArg _ h := ⟨by rw [h.1]; rfl, h.2⟩
  saveTok {s s'} o i t h := by
    obtain ⟨rfl, hn⟩ := h
    have hn0 : ((s.wn N').P.node 0).mapKeysToLower = (s.P.node 0).mapKeysToLower := (hQ (hn 0)).lower
    unfold saveTok
    rw [hn0, show (s.wn N').P.opt o = s.P.opt o from rfl]
    cases save ext (s.P.node 0).mapKeysToLower (s.P.opt o) [t] <;> exact ⟨rfl, hn⟩
  procPair p h := overNodes_procPair ext hQ N' p h
  headOther {s s'} t h := by
    obtain ⟨rfl, hn⟩ := h
    have q : NodeSim esc (s.P.node s.cur) ((s.wn N').P.node (s.wn N').cur) := hQ (hn s.cur)
    unfold headOther
    cases comp with
    | some target =>
      -- `completionsAt` reads the program through `Prog.opt` only
      have e : completionsAt ext target (s.wn N').P ((s.wn N').P.node (s.wn N').cur)
            ((s.wn N').rem.drop (s.wn N').textStart) t =
          completionsAt ext target s.P (s.P.node s.cur) (s.rem.drop s.textStart) t :=
        hc target rfl (s.wn N').P _ _ _ _ (hn s.cur)
      exact .inr ⟨by simp only; rw [e]; rfl, hn⟩
    | none =>
      refine ite_rel (Q := Upto esc (OverNodes Q N')) (fun _ => .inr ⟨rfl, hn⟩) fun _ => ?_
      rw [q.cmds]
      cases lookup t (s.P.node s.cur).cmds with
      | some c => exact .inr ⟨rfl, hn⟩
      | none =>
        cases hro : (s.P.node s.cur).requireOrder with
        | false => rw [q.ro_false hro]; exact .inr ⟨rfl, hn⟩
        | true =>
          rcases q.ro with e | ⟨e, _⟩
          · rw [e, hro]; exact .inr ⟨rfl, hn⟩
          · exact .inl ⟨e, rfl⟩

end GoModel
