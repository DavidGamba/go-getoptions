import Model.Prog
import Lemmas.Lookup
/-! Reading a node or an option record back after the lists were written to. -/
namespace GoModel

theorem node_setNode (P : Prog) (k n : Nat) (x : Node) :
    (P.setNode k x).node n = if n = k ∧ k < P.nodes.length then x else P.node n :=
  getD_set P.nodes k n x dummyNode

theorem node_modNode (P : Prog) (k n : Nat) (f : Node → Node) :
    (P.modNode k f).node n = if n = k ∧ k < P.nodes.length then f (P.node k) else P.node n :=
  node_setNode P k n _

theorem length_modNode (P : Prog) (n : Nat) (f : Node → Node) : (P.modNode n f).nodes.length = P.nodes.length :=
  List.length_set

theorem node_append (P : Prog) (nd : Node) (x : Nat) :
    ({ P with nodes := P.nodes ++ [nd] } : Prog).node x =
      if x < P.nodes.length then P.node x else if x = P.nodes.length then nd else dummyNode := by
  unfold Prog.node
  simp only [List.getD_eq_getElem?_getD]
  by_cases h1 : x < P.nodes.length
  · simp [h1, List.getElem?_append_left h1]
  · by_cases h2 : x = P.nodes.length
    · subst h2; simp
    · have : P.nodes.length + 1 ≤ x := by omega
      simp [h1, h2, List.getElem?_eq_none (l := P.nodes ++ [nd]) (by simpa using this)]

theorem node_append_new (P : Prog) (nd : Node) :
    ({ P with nodes := P.nodes ++ [nd] } : Prog).node P.nodes.length = nd := by
  rw [node_append, if_neg (Nat.lt_irrefl _), if_pos rfl]

/-- a projection of the node list determines that projection of every node (of the dummy node too, outside
the list) -/
theorem node_of_nodes_map {β} (g : Node → β) {P Q : Prog} (h : Q.nodes.map g = P.nodes.map g) (n : Nat) :
    g (Q.node n) = g (P.node n) := by
  rw [Prog.node, Prog.node, ← getD_map g, ← getD_map g, h]

theorem length_of_nodes_map {β} (g : Node → β) {P Q : Prog} (h : Q.nodes.map g = P.nodes.map g) :
    Q.nodes.length = P.nodes.length := by
  rw [← List.length_map g, h, List.length_map]

theorem nodes_map_setNode {β} (g : Node → β) (P : Prog) (k : Nat) (x : Node) (h : g x = g (P.node k)) :
    (P.setNode k x).nodes.map g = P.nodes.map g := by
  simp only [Prog.setNode, List.map_set, h]
  by_cases hk : k < P.nodes.length
  · have : g (P.node k) = (P.nodes.map g)[k]'(by simpa using hk) := by
      simp only [Prog.node, List.getD_eq_getElem?_getD, List.getElem?_eq_getElem hk, Option.getD_some,
        List.getElem_map]
    rw [this, List.set_getElem_self]
  · exact List.set_eq_of_length_le (by simpa using hk)

theorem opt_eq_getElem (P : Prog) (oid : Nat) (h : oid < P.opts.length) : P.opt oid = P.opts[oid] := by
  simp [Prog.opt, h]

theorem opt_setOpt (P : Prog) (o o' : Nat) (x : Opt) :
    (P.setOpt o x).opt o' = if o' = o ∧ o < P.opts.length then x else P.opt o' :=
  getD_set P.opts o o' x dummyOpt

theorem opt_setOpt_ne (P : Prog) (o o' : Nat) (x : Opt) (h : o' ≠ o) : (P.setOpt o x).opt o' = P.opt o' := by
  rw [opt_setOpt, if_neg fun e => h e.1]

theorem opt_setOpt_same (P : Prog) (o : Nat) (x : Opt) (h : o < P.opts.length) : (P.setOpt o x).opt o = x := by
  rw [opt_setOpt, if_pos ⟨rfl, h⟩]

theorem opt_set_self (P : Prog) (oid : Nat) (x : Opt) (h : oid < P.opts.length) :
    ({ P with opts := P.opts.set oid x } : Prog).opt oid = x :=
  opt_setOpt_same P oid x h

/-- an identifier beyond the option store names no record: there is nothing to replace -/
theorem setOpt_oob (P : Prog) (o : Nat) (x : Opt) (h : P.opts.length ≤ o) : P.setOpt o x = P := by
  rw [Prog.setOpt, List.set_eq_of_length_le h]

theorem node_setOpt (P : Prog) (o : Nat) (x : Opt) (n : Nat) : (P.setOpt o x).node n = P.node n := rfl

@[simp] theorem modNode_opts (P : Prog) (n : Nat) (f : Node → Node) : (P.modNode n f).opts = P.opts := rfl
@[simp] theorem setNode_opts (P : Prog) (n : Nat) (x : Node) : (P.setNode n x).opts = P.opts := rfl
theorem setOpt_opts (P : Prog) (o : Nat) (x : Opt) : (P.setOpt o x).opts = P.opts.set o x := rfl

end GoModel
