import Model.Parse
import Lemmas.Lookup
/-! The argument loop as a fold of `step`: what an error or a stop does to `step`, the fold and `finish`; the prefix law
of `run`; the case equations of `procPair`; the outcome lists of `procPair` and `offer`. -/
namespace GoModel

variable (ext : Ext) (mode : Mode)

theorem stepG_err (comp : Option Str) (s : PState) (t : Str) (h : s.err.isSome = true) :
    stepG ext mode comp s t = s := by
  simp [stepG, h]

theorem step_err (s : PState) (t : Str) (h : s.err.isSome = true) : step ext mode s t = s :=
  stepG_err ext mode none s t h

theorem step_stopped (s : PState) (t : Str) (he : s.err = none) (hc : s.ctx = .stopped) :
    step ext mode s t = s.addText t := by
  simp [step, stepG, he, hc]

theorem run_append (P : Prog) (pre post : List Str) :
    run ext mode P (pre ++ post) = post.foldl (step ext mode) (run ext mode P pre) := by
  simp [run, List.foldl_append]

theorem parseArgs_cons (P : Prog) (pre post : List Str) (t : Str) :
    parseArgs ext mode P (pre ++ t :: post) =
      finish ext (post.foldl (step ext mode) (step ext mode (run ext mode P pre) t)) := by
  rw [parseArgs, run_append, List.foldl_cons]

theorem foldl_err (s : PState) (ts : List Str) (h : s.err.isSome = true) :
    ts.foldl (step ext mode) s = s := by
  induction ts with
  | nil => rfl
  | cons t ts ih => simp [List.foldl, step_err ext mode s t h, ih]

/-- once stopped (after `--` or the require-order stop) every further token is appended verbatim
and nothing else changes -/
theorem foldl_stopped (s : PState) (ts : List Str) (he : s.err = none) (hc : s.ctx = .stopped) :
    ts.foldl (step ext mode) s = { s with rem := s.rem ++ ts } := by
  induction ts generalizing s with
  | nil => simp
  | cons t ts ih =>
    simp only [List.foldl]
    rw [step_stopped ext mode s t he hc]
    rw [ih (s.addText t) (by simp [PState.addText, he]) (by simp [PState.addText, hc])]
    simp [PState.addText, List.append_assoc]

theorem finish_stopped (s : PState) (hc : s.ctx = .stopped) : finish ext s = s := by
  unfold finish
  split
  · rfl
  · simp [hc]

theorem rest_stopped (s : PState) (ts : List Str) (he : s.err = none) (hc : s.ctx = .stopped) :
    finish ext (ts.foldl (step ext mode) s) = { s with rem := s.rem ++ ts } := by
  rw [foldl_stopped ext mode s ts he hc]
  exact finish_stopped ext _ hc

/-- in the stopped state nothing but the remaining list ever changes again -/
theorem after_stop (s : PState) (ts : List Str) (he : s.err = none) (hc : s.ctx = .stopped) :
    let r := finish ext (ts.foldl (step ext mode) s)
    r.P = s.P ∧ r.cur = s.cur ∧ r.unk = s.unk ∧ r.err = none ∧ r.rem = s.rem ++ ts := by
  rw [rest_stopped ext mode s ts he hc]
  simp [he]

theorem finish_idle (s : PState) (hc : s.ctx = .idle) : finish ext s = s := by
  unfold finish
  split
  · rfl
  · simp [hc]

/-- At the end of the input an occurrence that has its mandatory arguments (an optional-value option given bare, say) is
simply closed: no error, value unchanged. -/
theorem finish_optional (s : PState) (o i : Nat) (he : s.err = none) (hc : s.ctx = .collecting o i)
    (hp : s.pending = []) (hmin : ¬ (i : Int) < (s.P.opt o).min) :
    finish ext s = { s with ctx := .idle, pending := [] } := by
  simp [finish, he, hc, hmin, hp, finishDrain]

theorem finish_err (s : PState) (h : s.err.isSome = true) : finish ext s = s := by
  simp [finish, h]

/-- A text that is itself a declared name or alias always selects that entry, even when it is also
a prefix of other names. -/
theorem resolve_exact (nd : Node) (k : Str) (o : Nat) (h : lookup k nd.opts = some o) :
    resolve nd k = [k] := by
  simp [resolve, h]

theorem procPair_unknown_ro (s : PState) (p : Pair) (hr : resolve (s.P.node s.cur) p.opt = [])
    (hro : (s.P.node s.cur).requireOrder = true) :
    procPair ext s p = { s.addText s.tok with ctx := .stopped, pending := [] } := by
  unfold procPair; simp only [hr, hro]; rfl

theorem procPair_unknown (s : PState) (p : Pair) (hr : resolve (s.P.node s.cur) p.opt = [])
    (hro : (s.P.node s.cur).requireOrder = false) :
    procPair ext s p =
      if (s.P.node s.cur).umode != .fail && !s.passed then
        { s with unk := s.unk ++ [(p.opt, (s.P.node s.cur).umode)], rem := s.rem ++ [s.tok], passed := true }
      else { s with unk := s.unk ++ [(p.opt, (s.P.node s.cur).umode)] } := by
  unfold procPair; simp only [hr, hro]; simp [PState.addText]

theorem procPair_amb (s : PState) (p : Pair) (k1 k2 : Str) (ks : List Str)
    (hr : resolve (s.P.node s.cur) p.opt = k1 :: k2 :: ks) :
    procPair ext s p = { s with err := some (.ambiguous s.lastTok (sortStrs (k1 :: k2 :: ks))) } := by
  unfold procPair; simp only [hr]

/-- the record of option `oid` marked as called under `key`, before the attached arguments are saved -/
def matched (s : PState) (oid : Nat) (key : Str) : Opt :=
  { s.P.opt oid with called := true, usedAlias := key, lowerKeys := (s.P.node 0).mapKeysToLower }

theorem procPair_known (s : PState) (p : Pair) (key : Str) (oid : Nat)
    (hr : resolve (s.P.node s.cur) p.opt = [key]) (hl : lookup key (s.P.node s.cur).opts = some oid) :
    procPair ext s p =
      match save ext (s.P.node 0).mapKeysToLower (matched s oid key) p.args with
      | .error e => { s with P := s.P.setOpt oid (matched s oid key), err := some e }
      | .ok o' =>
        if ((p.args.length : Nat) : Int) < o'.max then
          { s with P := s.P.setOpt oid o', ctx := .collecting oid p.args.length }
        else { s with P := s.P.setOpt oid o' } := by
  unfold procPair; simp only [hr, hl, matched]; rfl

/-! ## the outcomes of `procPair` and `offer`

`procPair` and `offer` are the only places where the loop touches the option store.
`ProcPair` / `Offer` list their outcomes once, with the conditions under which each arises; a proof about
them takes `procPair_spec` / `offer_spec`, generalizes the result and goes by `cases` on the outcome, instead of walking
through the definition. -/

theorem lookup_of_resolve (nd : Node) (e key : Str) (h : resolve nd e = [key]) :
    ∃ oid, lookup key nd.opts = some oid := by
  unfold resolve at h
  split at h
  · rename_i oid hl
    cases h; exact ⟨oid, hl⟩
  · apply lookup_some_of_mem
    have : key ∈ ((nd.opts.filter fun kv => hasPrefix kv.1 e).map (·.1)) := by rw [h]; simp
    obtain ⟨kv, hkv, rfl⟩ := List.mem_map.mp this
    exact List.mem_map.mpr ⟨kv, (List.mem_filter.mp hkv).1, rfl⟩

/-- the outcomes of `procPair ext s p`, by what the name look-up finds -/
inductive ProcPair (s : PState) (p : Pair) : PState → Prop
  /-- undeclared under require-order: the token ends option processing -/
  | roStop (hr : resolve (s.P.node s.cur) p.opt = []) (hro : (s.P.node s.cur).requireOrder = true) :
    ProcPair s p { s.addText s.tok with ctx := .stopped, pending := [] }
  /-- undeclared, logged, and the token passed through (not in Fail mode, once per token) -/
  | unknownKept (hr : resolve (s.P.node s.cur) p.opt = []) (hro : (s.P.node s.cur).requireOrder = false)
      (hp : ((s.P.node s.cur).umode != .fail && !s.passed) = true) :
    ProcPair s p { s with unk := s.unk ++ [(p.opt, (s.P.node s.cur).umode)], rem := s.rem ++ [s.tok],
                          passed := true }
  | unknown (hr : resolve (s.P.node s.cur) p.opt = []) (hro : (s.P.node s.cur).requireOrder = false)
      (hp : ((s.P.node s.cur).umode != .fail && !s.passed) = false) :
    ProcPair s p { s with unk := s.unk ++ [(p.opt, (s.P.node s.cur).umode)] }
  | saveErr (key : Str) (oid : Nat) (e : PErr) (hr : resolve (s.P.node s.cur) p.opt = [key])
      (hl : lookup key (s.P.node s.cur).opts = some oid)
      (hs : save ext (s.P.node 0).mapKeysToLower (matched s oid key) p.args = .error e) :
    ProcPair s p { s with P := s.P.setOpt oid (matched s oid key), err := some e }
  | saved (key : Str) (oid : Nat) (o' : Opt) (hr : resolve (s.P.node s.cur) p.opt = [key])
      (hl : lookup key (s.P.node s.cur).opts = some oid)
      (hs : save ext (s.P.node 0).mapKeysToLower (matched s oid key) p.args = .ok o') :
    ProcPair s p { s with P := s.P.setOpt oid o',
                          ctx := if ((p.args.length : Nat) : Int) < o'.max then .collecting oid p.args.length
                                 else s.ctx }
  | ambiguous (k1 k2 : Str) (ks : List Str) (hr : resolve (s.P.node s.cur) p.opt = k1 :: k2 :: ks) :
    ProcPair s p { s with err := some (.ambiguous s.lastTok (sortStrs (k1 :: k2 :: ks))) }

theorem procPair_spec (s : PState) (p : Pair) : ProcPair ext s p (procPair ext s p) := by
  cases hr : resolve (s.P.node s.cur) p.opt with
  | nil =>
    cases hro : (s.P.node s.cur).requireOrder with
    | true => rw [procPair_unknown_ro ext s p hr hro]; exact .roStop hr hro
    | false =>
      rw [procPair_unknown ext s p hr hro]
      split
      · exact .unknownKept hr hro ‹_›
      · exact .unknown hr hro (Bool.not_eq_true _ ▸ ‹¬ _›)
  | cons k1 rest =>
    cases rest with
    | nil =>
      obtain ⟨oid, hl⟩ := lookup_of_resolve _ _ _ hr
      rw [procPair_known ext s p k1 oid hr hl]
      split
      · exact .saveErr k1 oid _ hr hl ‹_›
      · rename_i o' hs
        have := ProcPair.saved (ext := ext) k1 oid o' hr hl hs
        split <;> simpa [*] using this
    | cons k2 ks => rw [procPair_amb ext s p k1 k2 ks hr]; exact .ambiguous k1 k2 ks hr

/-- the outcomes exclude each other: the conditions of an outcome determine `procPair` -/
theorem ProcPair.eq {ext : Ext} {s : PState} {p : Pair} {r : PState} (h : ProcPair ext s p r) :
    procPair ext s p = r := by
  cases h with
  | roStop hr hro => exact procPair_unknown_ro ext s p hr hro
  | unknownKept hr hro hp => rw [procPair_unknown ext s p hr hro, if_pos hp]
  | unknown hr hro hp => rw [procPair_unknown ext s p hr hro, if_neg (by rw [hp]; exact Bool.false_ne_true)]
  | saveErr key oid e hr hl hs => rw [procPair_known ext s p key oid hr hl, hs]
  | saved key oid o' hr hl hs => rw [procPair_known ext s p key oid hr hl, hs]; dsimp only; split <;> rfl
  | ambiguous k1 k2 ks hr => exact procPair_amb ext s p k1 k2 ks hr

/-- a mandatory argument is missing and the token looks like an option -/
def dashArg (s : PState) (o : Nat) : PState := { s with err := some (.dashArg (s.P.opt o).usedAlias) }

/-- the token is saved as a further argument of occurrence `o` -/
def saveTok (s : PState) (o i : Nat) (t : Str) : PState :=
  match save ext (s.P.node 0).mapKeysToLower (s.P.opt o) [t] with
  | .error e => { s with err := some e, lastTok := t }
  | .ok o' => { s with P := s.P.setOpt o o', lastTok := t,
                       ctx := if ((i + 1 : Nat) : Int) < o'.max then .collecting o (i + 1) else .idle }

/-- the decision reads the option's `min` and `kind` only -/
theorem offer_eq (s : PState) (o i : Nat) (t : Str) :
    offer ext mode s o i t =
      if (i : Int) < (s.P.opt o).min then
        if looksLikeOption t mode then (dashArg s o, true) else (saveTok ext s o i t, true)
      else if looksLikeOption t mode || t == dashdash || !typeOk ext (s.P.opt o).kind t then
        ({ s with ctx := .idle }, false)
      else (saveTok ext s o i t, true) := by
  unfold offer saveTok dashArg
  dsimp only
  cases save ext (s.P.node 0).mapKeysToLower (s.P.opt o) [t] <;> rfl

/-- the outcomes of `offer ext mode s o i t`: the token `t` arrives while option `o` has `i` arguments -/
inductive Offer (s : PState) (o i : Nat) (t : Str) : PState × Bool → Prop
  /-- a mandatory argument is missing and `t` looks like an option -/
  | dashArg (hmin : (i : Int) < (s.P.opt o).min) (hl : looksLikeOption t mode = true) :
    Offer s o i t ({ s with err := some (.dashArg (s.P.opt o).usedAlias) }, true)
  /-- beyond the minimum `t` is not taken: the occurrence is closed and `t` goes on to the next reader -/
  | refused (hmin : ¬ (i : Int) < (s.P.opt o).min)
      (hr : (looksLikeOption t mode || t == dashdash || !typeOk ext (s.P.opt o).kind t) = true) :
    Offer s o i t ({ s with ctx := .idle }, false)
  | saveErr (e : PErr) (hs : save ext (s.P.node 0).mapKeysToLower (s.P.opt o) [t] = .error e) :
    Offer s o i t ({ s with err := some e, lastTok := t }, true)
  | saved (o' : Opt) (hs : save ext (s.P.node 0).mapKeysToLower (s.P.opt o) [t] = .ok o') :
    Offer s o i t ({ s with P := s.P.setOpt o o', lastTok := t,
                            ctx := if ((i + 1 : Nat) : Int) < o'.max then .collecting o (i + 1) else .idle }, true)

theorem offer_spec (s : PState) (o i : Nat) (t : Str) : Offer ext mode s o i t (offer ext mode s o i t) := by
  have hsave : Offer ext mode s o i t (saveTok ext s o i t, true) := by
    unfold saveTok
    split
    · exact .saveErr _ ‹_›
    · exact .saved _ ‹_›
  rw [offer_eq]
  split
  · split
    · exact .dashArg ‹_› ‹_›
    · exact hsave
  · split
    · exact .refused ‹_› ‹_›
    · exact hsave

/-- An occurrence that has its mandatory arguments never takes an option-looking token or `--`:
an optional-value option followed by such a token keeps its value and stays called. -/
theorem offer_optional_refuses (s : PState) (o i : Nat) (t : Str)
    (hmin : ¬ (i : Int) < (s.P.opt o).min) (ht : looksLikeOption t mode = true ∨ t = dashdash) :
    offer ext mode s o i t = ({ s with ctx := .idle }, false) := by
  rw [offer_eq, if_neg hmin, if_pos]
  rcases ht with h | h <;> simp [h]

/-- An occurrence that still lacks a mandatory argument consumes whatever comes: the token is saved as that argument, or
the parse fails on it. -/
theorem offer_mandatory_consumes (s : PState) (o i : Nat) (t : Str) (h : (i : Int) < (s.P.opt o).min) :
    (offer ext mode s o i t).2 = true := by
  rw [offer_eq, if_pos h]
  split <;> rfl

theorem offer_cases (s : PState) (o i : Nat) (t : Str) :
    offer ext mode s o i t = ((offer ext mode s o i t).1, true) ∨
    offer ext mode s o i t = ({ s with ctx := .idle }, false) := by
  have hsp := offer_spec ext mode s o i t
  generalize offer ext mode s o i t = r at hsp ⊢
  cases hsp with
  | refused => exact .inr rfl
  | dashArg | saveErr | saved => exact .inl rfl

theorem procPair_cur_nodes (s : PState) (p : Pair) :
    (procPair ext s p).cur = s.cur ∧ ∀ n, (procPair ext s p).P.node n = s.P.node n := by
  have hsp := procPair_spec ext s p
  generalize procPair ext s p = r at hsp ⊢
  cases hsp <;> exact ⟨rfl, fun _ => rfl⟩

/-- `offer` changes at most the option store (never a node record), `lastTok`, `err` and `ctx` -/
theorem offer_frame (s : PState) (o i : Nat) (t : Str) :
    ∃ P' l e c, (offer ext mode s o i t).1 = { s with P := P', lastTok := l, err := e, ctx := c } ∧
      (∀ n, P'.node n = s.P.node n) ∧ (c = .idle ∨ c = s.ctx ∨ ∃ i', c = .collecting o i') := by
  have hsp := offer_spec ext mode s o i t
  generalize offer ext mode s o i t = r at hsp ⊢
  cases hsp with
  | dashArg => exact ⟨s.P, s.lastTok, _, s.ctx, rfl, fun _ => rfl, .inr (.inl rfl)⟩
  | refused => exact ⟨s.P, s.lastTok, s.err, .idle, rfl, fun _ => rfl, .inl rfl⟩
  | saveErr => exact ⟨s.P, t, _, s.ctx, rfl, fun _ => rfl, .inr (.inl rfl)⟩
  | saved o' =>
    refine ⟨s.P.setOpt o o', t, s.err, _, rfl, fun _ => rfl, ?_⟩
    split
    · exact .inr (.inr ⟨_, rfl⟩)
    · exact .inl rfl

theorem offer_cur_nodes (s : PState) (o i : Nat) (t : Str) :
    (offer ext mode s o i t).1.cur = s.cur ∧ ∀ n, (offer ext mode s o i t).1.P.node n = s.P.node n := by
  obtain ⟨P', l, e, c, heq, hn, -⟩ := offer_frame ext mode s o i t
  rw [heq]; exact ⟨rfl, hn⟩

theorem procPair_pending (s : PState) (p : Pair) :
    (procPair ext s p).pending = s.pending ∨ (procPair ext s p).pending = [] := by
  have hsp := procPair_spec ext s p
  generalize procPair ext s p = r at hsp ⊢
  cases hsp with
  | roStop => exact .inr rfl
  | unknownKept | unknown | saveErr | saved | ambiguous => exact .inl rfl

theorem offer_pending (s : PState) (o i : Nat) (t : Str) : (offer ext mode s o i t).1.pending = s.pending := by
  have hsp := offer_spec ext mode s o i t
  generalize offer ext mode s o i t = r at hsp ⊢
  cases hsp <;> rfl

/-- the state in which the pairs of the option token `t` are processed -/
def headState (s : PState) (t : Str) : PState := { s with tok := t, lastTok := t, passed := false }

theorem isOption_true_ne_dashdash (mode : Mode) (t : Str) (ps : List Pair) (h : isOption t mode = (ps, true)) :
    t ≠ dashdash := by
  intro e; subst e
  simp [isOption, dashdash] at h

theorem looks_of_isOption (mode : Mode) (t : Str) (ps : List Pair) (h : isOption t mode = (ps, true)) :
    looksLikeOption t mode = true := by
  unfold looksLikeOption; rw [h]

end GoModel
