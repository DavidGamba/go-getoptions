import Lemmas.Untouched
/-!
# One occurrence of a multi-value option collects its values in command-line order

`saveAll` is "each value goes through the typed `Save`, one after another".  `collect` says: while option `oid`
is collecting and the tokens `vs` are acceptable (not option-looking; beyond the minimum also not `--` and
well-formed for the element type), folding the step function over `vs` saves exactly them, in order, and
leaves the occurrence open or closed according to the maximum.  `refused_as_idle` says that a token the open
occurrence refuses is processed exactly as from the idle state.
-/
namespace GoModel

variable (ext : Ext) (mode : Mode)

/-- the values of one occurrence, saved one after another -/
def saveAll (lower : Bool) (o : Opt) : List Str → Except PErr Opt
  | [] => .ok o
  | v :: r =>
    match save ext lower o [v] with
    | .ok o' => saveAll lower o' r
    | .error e => .error e

theorem saveAll_static (lower : Bool) (vs : List Str) (o o' : Opt) (h : saveAll ext lower o vs = .ok o') :
    o'.static = o.static := by
  induction vs generalizing o with
  | nil => simp only [saveAll] at h; cases h; rfl
  | cons v r ih =>
    simp only [saveAll] at h
    split at h
    · rename_i o1 h1; exact (ih o1 h).trans (save_static ext lower o o1 [v] h1)
    · cases h

/-- a token the open occurrence accepts: what `offer` tests -/
def Acceptable (o : Opt) (i : Nat) (t : Str) : Prop :=
  looksLikeOption t mode = false ∧ ((i : Int) < o.min ∨ (t ≠ dashdash ∧ typeOk ext o.kind t = true))

theorem offer_accepts (s : PState) (o i : Nat) (t : Str) (o' : Opt)
    (ha : Acceptable ext mode (s.P.opt o) i t)
    (hs : save ext (s.P.node 0).mapKeysToLower (s.P.opt o) [t] = .ok o') :
    offer ext mode s o i t =
      ({ s with P := s.P.setOpt o o', lastTok := t,
                ctx := if ((i + 1 : Nat) : Int) < o'.max then .collecting o (i + 1) else .idle }, true) := by
  rw [offer_eq, ha.1, saveTok, hs]
  rcases ha.2 with h | ⟨h1, h2⟩
  · rw [if_pos h]; rfl
  · simp [h1, h2]

/-- all of `vs`, offered one after another starting with `i` values already saved -/
def AllAcceptable (o : Opt) : Nat → List Str → Prop
  | _, [] => True
  | i, t :: r => Acceptable ext mode o i t ∧ AllAcceptable o (i + 1) r

theorem acceptable_congr {a c : Opt} (h : a.static = c.static) (i : Nat) (t : Str) :
    Acceptable ext mode a i t ↔ Acceptable ext mode c i t := by
  unfold Acceptable; rw [static_min h, static_kind h]

theorem allAcceptable_congr {a c : Opt} (h : a.static = c.static) (vs : List Str) (i : Nat) :
    AllAcceptable ext mode a i vs ↔ AllAcceptable ext mode c i vs := by
  induction vs generalizing i with
  | nil => exact Iff.rfl
  | cons t r ih => simp only [AllAcceptable]; rw [acceptable_congr ext mode h, ih]

/-- the state after the open occurrence `oid` has taken the values `vs` -/
def collected (s : PState) (oid : Nat) (i : Nat) (vs : List Str) (o' : Opt) : PState :=
  { s with P := s.P.setOpt oid o', lastTok := vs.getLast?.getD s.lastTok, pending := [],
           ctx := if ((i + vs.length : Nat) : Int) < o'.max then .collecting oid (i + vs.length) else .idle }

theorem step_collects (s : PState) (oid i : Nat) (t : Str) (o1 : Opt)
    (he : s.err = none) (hc : s.ctx = .collecting oid i) (hp : s.pending = [])
    (ha : Acceptable ext mode (s.P.opt oid) i t)
    (hs : save ext (s.P.node 0).mapKeysToLower (s.P.opt oid) [t] = .ok o1) :
    step ext mode s t = collected s oid i [t] o1 := by
  rw [step_collecting ext mode s oid i t he hc hp, offer_accepts ext mode s oid i t o1 ha hs, collected, ← hp]
  rfl

theorem collected_cons (s : PState) (oid i : Nat) (t : Str) (r : List Str) (o1 o' : Opt) (hr : r ≠ []) :
    collected (collected s oid i [t] o1) oid (i + 1) r o' = collected s oid i (t :: r) o' := by
  cases r with
  | nil => exact absurd rfl hr
  | cons t2 r2 =>
    simp only [collected, Prog.setOpt, List.set_set, List.length_cons, List.getLast?_cons_cons,
      List.getLast?_eq_some_getLast hr, Option.getD_some,
      show i + 1 + (r2.length + 1) = i + (r2.length + 1 + 1) by omega]

/-- **Collecting.**  Option `oid` is open with `i` values so far, room for all of `vs`
(`i + |vs| ≤ max`), nothing pending, every token acceptable, every typed `Save` succeeds: the tokens are
saved in order and nothing else changes. -/
theorem collect (vs : List Str) (s : PState) (oid i : Nat) (o' : Opt)
    (he : s.err = none) (hc : s.ctx = .collecting oid i) (hp : s.pending = [])
    (hoid : oid < s.P.opts.length)
    (hroom : ((i + vs.length : Nat) : Int) ≤ (s.P.opt oid).max) (hne : vs ≠ [])
    (hacc : AllAcceptable ext mode (s.P.opt oid) i vs)
    (hs : saveAll ext (s.P.node 0).mapKeysToLower (s.P.opt oid) vs = .ok o') :
    vs.foldl (step ext mode) s = collected s oid i vs o' := by
  induction vs generalizing s i with
  | nil => exact absurd rfl hne
  | cons t r ih =>
    simp only [saveAll] at hs
    split at hs
    case h_2 => cases hs
    rename_i o1 h1
    rw [List.foldl_cons, step_collects ext mode s oid i t o1 he hc hp hacc.1 h1]
    by_cases hr : r = []
    · subst hr
      cases hs
      rfl
    · -- more values follow: the occurrence is still open, with the record `o1`
      have hst1 := save_static ext _ _ _ _ h1
      have hget : (collected s oid i [t] o1).P.opt oid = o1 := opt_setOpt_same s.P oid o1 hoid
      have hlen : 0 < r.length := List.length_pos_iff.mpr hr
      have hopen : ((i + 1 : Nat) : Int) < o1.max := by
        rw [static_max hst1]; simp only [List.length_cons] at hroom; omega
      rw [← collected_cons s oid i t r o1 o' hr]
      refine ih _ (i + 1) he (by simp only [collected, List.length_singleton, hopen, ↓reduceIte]) rfl
        (by simpa [collected, Prog.setOpt] using hoid) ?_ hr ?_ ?_
      · rw [hget, static_max hst1]
        simp only [List.length_cons] at hroom
        rw [show i + 1 + r.length = i + (r.length + 1) by omega]
        exact hroom
      · rw [hget, allAcceptable_congr ext mode hst1]
        exact hacc.2
      · rw [hget]
        exact hs

/-- a token refused by the open occurrence (which has its minimum) is processed as from the idle state -/
theorem refused_as_idle (s : PState) (oid i : Nat) (t : Str)
    (he : s.err = none) (hc : s.ctx = .collecting oid i) (hp : s.pending = [])
    (hmin : ¬ (i : Int) < (s.P.opt oid).min)
    (hr : looksLikeOption t mode = true ∨ t = dashdash) :
    step ext mode s t = step ext mode { s with ctx := .idle } t := by
  rw [step_collecting ext mode s oid i t he hc hp, offer_optional_refuses ext mode s oid i t hmin hr]

/-- an occurrence that has its minimum and ends here — full, or at the end of the command line, or in front of a
token it refuses — is final when the rest of the command line does not mention the option -/
theorem occurrence_closed_final (P : Prog) (S : PState) (post : List Str) (oid i : Nat)
    (hnodes : ∀ n, S.P.node n = P.node n) (herr : S.err = none) (hpend : S.pending = [])
    (hctx : S.ctx = if (i : Int) < (S.P.opt oid).max then .collecting oid i else .idle)
    (hmin : ¬ (i : Int) < (S.P.opt oid).min)
    (hend : (i : Int) = (S.P.opt oid).max ∨ post = [] ∨
      ∃ t rest, post = t :: rest ∧ (looksLikeOption t mode = true ∨ t = dashdash))
    (hpost : ¬ Mentioned mode P post oid) :
    (finish ext (post.foldl (step ext mode) S)).P.opt oid = S.P.opt oid := by
  have hidle : ∀ post, ¬ Mentioned mode P post oid →
      (finish ext (post.foldl (step ext mode) { S with ctx := .idle })).P.opt oid = S.P.opt oid := fun post hnm =>
    later_unmentioned_keeps ext mode { S with ctx := .idle } post oid
      (by rw [mentioned_congr mode (P' := S.P) (P := P) hnodes]; exact hnm) hpend (fun o i h => by cases h)
  by_cases hfull : (i : Int) < (S.P.opt oid).max
  · rw [if_pos hfull] at hctx
    rcases hend with h | rfl | ⟨t, rest, rfl, hr⟩
    · omega
    · rw [List.foldl_nil, finish_optional ext S oid i herr hctx hpend hmin]
    · rw [List.foldl_cons, refused_as_idle ext mode S oid i t herr hctx hpend hmin hr]
      exact hidle (t :: rest) hpost
  · rw [if_neg hfull] at hctx
    have : S = { S with ctx := .idle } := by rw [← hctx]
    rw [this]
    exact hidle post hpost

/-- **From the open occurrence on.**  Option `oid` is open with `i` values saved (record `o`), `vs` follow and are
acceptable, the occurrence then has its minimum and ends as the property says, `post` does not mention the option:
after the rest of the parse the record is `saveAll` of `vs` onto `o`.  Bounds, kind and acceptability are those of
the declared record `P.opt oid` (parsing does not change them). -/
theorem occurrence_from_open (P : Prog) (s : PState) (vs post : List Str) (oid i : Nat) (o o' : Opt)
    (hnodes : ∀ n, s.P.node n = P.node n) (he : s.err = none) (hc : s.ctx = .collecting oid i)
    (hp : s.pending = []) (hoid : oid < s.P.opts.length) (ho : s.P.opt oid = o)
    (hst : o.static = (P.opt oid).static) (hvs : vs ≠ [])
    (hroom : ((i + vs.length : Nat) : Int) ≤ (P.opt oid).max)
    (hmin : (P.opt oid).min ≤ ((i + vs.length : Nat) : Int))
    (hacc : AllAcceptable ext mode (P.opt oid) i vs)
    (hs : saveAll ext (P.node 0).mapKeysToLower o vs = .ok o')
    (hend : ((i + vs.length : Nat) : Int) = (P.opt oid).max ∨ post = [] ∨
      ∃ t rest, post = t :: rest ∧ (looksLikeOption t mode = true ∨ t = dashdash))
    (hpost : ¬ Mentioned mode P post oid) :
    (finish ext ((vs ++ post).foldl (step ext mode) s)).P.opt oid = o' := by
  have hso : o'.static = (P.opt oid).static := (saveAll_static ext _ vs _ o' hs).trans hst
  rw [List.foldl_append, collect ext mode vs s oid i o' he hc hp hoid
    (by rw [ho, static_max hst]; exact hroom) hvs
    (by rw [ho, allAcceptable_congr ext mode hst]; exact hacc) (by rw [ho, hnodes]; exact hs)]
  have hopt : (collected s oid i vs o').P.opt oid = o' := opt_setOpt_same _ oid o' hoid
  rw [occurrence_closed_final ext mode P (collected s oid i vs o') post oid (i + vs.length) hnodes he rfl
    (by rw [hopt]; rfl) (by rw [hopt, static_min hso]; omega) (by rw [hopt, static_max hso]; exact hend) hpost, hopt]

end GoModel
