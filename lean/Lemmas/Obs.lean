import Model.Parse
/-! Observational equality of parse states: everything but the bookkeeping of the verbatim token and the pending list. -/
namespace GoModel

variable (ext : Ext) (mode : Mode)

/-- equal in everything but the bookkeeping of the verbatim token and the pending list: option store, selected command,
context, remaining list, unknown-option log, error, start of the current node's text (`textStart`), completion list -/
structure ObsEq (s s' : PState) : Prop where
  P : s.P = s'.P
  cur : s.cur = s'.cur
  ctx : s.ctx = s'.ctx
  rem : s.rem = s'.rem
  unk : s.unk = s'.unk
  err : s.err = s'.err
  ts : s.textStart = s'.textStart
  comps : s.comps = s'.comps

theorem ObsEq.refl (s : PState) : ObsEq s s := ⟨rfl, rfl, rfl, rfl, rfl, rfl, rfl, rfl⟩
theorem ObsEq.symm {s s' : PState} (h : ObsEq s s') : ObsEq s' s :=
  ⟨h.P.symm, h.cur.symm, h.ctx.symm, h.rem.symm, h.unk.symm, h.err.symm, h.ts.symm, h.comps.symm⟩
theorem ObsEq.trans {a c d : PState} (h1 : ObsEq a c) (h2 : ObsEq c d) : ObsEq a d :=
  ⟨h1.P.trans h2.P, h1.cur.trans h2.cur, h1.ctx.trans h2.ctx, h1.rem.trans h2.rem, h1.unk.trans h2.unk,
   h1.err.trans h2.err, h1.ts.trans h2.ts, h1.comps.trans h2.comps⟩

theorem ObsEq.withPending {a c : PState} (h : ObsEq a c) (x y : List Pair) :
    ObsEq { a with pending := x } { c with pending := y } := ⟨h.P, h.cur, h.ctx, h.rem, h.unk, h.err, h.ts, h.comps⟩

theorem ObsEq.addText {a c : PState} (h : ObsEq a c) (t : Str) : ObsEq (a.addText t) (c.addText t) :=
  ⟨h.P, h.cur, h.ctx, congrArg (· ++ [t]) h.rem, h.unk, h.err, h.ts, h.comps⟩

/-- the bookkeeping of the verbatim token and the pending list are not observed -/
theorem ObsEq.book (s : PState) (a : Str) (p : Bool) (c : Str) (ps : List Pair) :
    ObsEq s { s with tok := a, passed := p, lastTok := c, pending := ps } := ⟨rfl, rfl, rfl, rfl, rfl, rfl, rfl, rfl⟩

theorem ObsEq.eq_book {s s' : PState} (h : ObsEq s s') :
    ∃ a b c l, s' = { s with tok := a, passed := b, lastTok := c, pending := l } := by
  obtain ⟨h1, h2, h3, h4, h5, h6, h7, h8⟩ := h
  cases s; cases s'
  simp only at *
  subst h1 h2 h3 h4 h5 h6 h7 h8
  exact ⟨_, _, _, _, rfl⟩

end GoModel
