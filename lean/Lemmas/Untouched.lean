import Lemmas.Frame
/-! An option that no token of the command line resolves to keeps the record it has — from the start of the
parse (its declared default, "not called") or from any later state on, whatever else is on the command line. -/
namespace GoModel

variable (ext : Ext) (mode : Mode)

/-- `p` is one of the pairs some token of `args` splits into -/
def FromArgs (args : List Str) (p : Pair) : Prop := ∃ t ∈ args, p ∈ (isOption t mode).1

/-- at some level, the pair resolves to a key of option `oid` -/
def Hits (P : Prog) (p : Pair) (oid : Nat) : Prop :=
  ∃ n key, resolve (P.node n) p.opt = [key] ∧ lookup key (P.node n).opts = some oid

/-- some token of the command line names option `oid` (by name, alias or unique abbreviation, at some level) -/
def Mentioned (P : Prog) (args : List Str) (oid : Nat) : Prop := ∃ p, FromArgs mode args p ∧ Hits P p oid

theorem hits_congr {P P' : Prog} (h : ∀ n, P'.node n = P.node n) (p : Pair) (oid : Nat) :
    Hits P' p oid ↔ Hits P p oid := by
  unfold Hits
  constructor
  · rintro ⟨n, key, h1, h2⟩; exact ⟨n, key, by rw [← h n]; exact h1, by rw [← h n]; exact h2⟩
  · rintro ⟨n, key, h1, h2⟩; exact ⟨n, key, by rw [h n]; exact h1, by rw [h n]; exact h2⟩

theorem mentioned_congr {P P' : Prog} (h : ∀ n, P'.node n = P.node n) (args : List Str) (oid : Nat) :
    Mentioned mode P' args oid ↔ Mentioned mode P args oid := by
  unfold Mentioned
  constructor
  · rintro ⟨p, hf, hh⟩; exact ⟨p, hf, (hits_congr h p oid).mp hh⟩
  · rintro ⟨p, hf, hh⟩; exact ⟨p, hf, (hits_congr h p oid).mpr hh⟩

/-- an option that no processed pair resolves to, at any level, and that is not collecting keeps its record -/
theorem Moves.untouched {ext : Ext} {L : Pair → Prop} {comp : Option Str} {s s' : PState} {oid : Nat}
    (h : Moves ext L comp s s') (hnm : ∀ p, L p → ¬ Hits s.P p oid) (hc : ∀ i, s.ctx ≠ .collecting oid i) :
    s'.P.opt oid = s.P.opt oid := by
  induction h with
  | refl => rfl
  | @cons a b c m _ ih =>
    have hna : ¬ Addressed L a oid := fun ⟨p, key, hp, hr, hl⟩ => hnm p hp ⟨a.cur, key, hr, hl⟩
    -- one move keeps the node records (hence `hnm`), the record of `oid`, and "`oid` is not collecting"
    have key : (∀ n, b.P.node n = a.P.node n) ∧ b.P.opt oid = a.P.opt oid ∧ ∀ i, b.ctx ≠ .collecting oid i := by
      cases m with
      | ctx c' _ ho =>
        refine ⟨fun _ => rfl, rfl, fun i h => ?_⟩
        rcases ho oid i h with h | ⟨i', h⟩
        · exact hna h
        · exact hc i' h
      | store o2 o' ha _ =>
        refine ⟨fun _ => rfl, opt_setOpt_ne _ _ _ _ ?_, hc⟩
        rintro rfl
        rcases ha with h | ⟨i, h⟩
        · exact hna h
        · exact hc i h
      | complete => exact ⟨fun _ => rfl, rfl, fun i h => by cases h⟩
      | _ => exact ⟨fun _ => rfl, rfl, hc⟩
    rw [ih (fun p hp hh => hnm p hp ((hits_congr key.1 p oid).mp hh)) key.2.2, key.2.1]

/-- **From any state on**: if nothing is pending, the open occurrence (if any) is not of option `oid`,
and no token of `post` mentions `oid`, then after `post` and the end-of-input processing the option
record is what it is now. -/
theorem later_unmentioned_keeps (s : PState) (post : List Str) (oid : Nat)
    (hnm : ¬ Mentioned mode s.P post oid) (hp : s.pending = [])
    (hc : ∀ o i, s.ctx = .collecting o i → o ≠ oid) :
    (finish ext (post.foldl (step ext mode) s)).P.opt oid = s.P.opt oid :=
  (rest_moves (L := FromArgs mode post) ext mode post s (by simp [hp]) fun t ht p hp => ⟨t, ht, hp⟩).untouched
    (fun p hp hh => hnm ⟨p, hp, hh⟩) fun i h => hc oid i h rfl

end GoModel
