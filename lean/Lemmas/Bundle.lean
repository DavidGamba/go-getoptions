import Lemmas.Sim
import Lemmas.Frame
/-! Pairs that resolve at the current level (`Known`) neither read nor write the loop's bookkeeping, and flags
(`FlagPair`) keep the parser at a head position.  Hence, at a head position: a bundle of flags followed by any declared
option is processed like the separate tokens; so are two tokens that split into the same pair, and an abbreviation and
the name it resolves to. -/
namespace GoModel

variable (ext : Ext) (mode : Mode)

/-- the pair resolves to an option of the current level -/
def Known (s : PState) (p : Pair) : Prop := ∃ key, resolve (s.P.node s.cur) p.opt = [key]

theorem Known.of_eq {s s0 : PState} {p : Pair} (h : Known s p) (hP : s0.P = s.P) (hc : s0.cur = s.cur) : Known s0 p := by
  obtain ⟨k, hk⟩ := h; exact ⟨k, by rw [hP, hc]; exact hk⟩

theorem procPair_known_book (s : PState) (p : Pair) (hk : Known s p) (a : Str) (b : Bool) (c : Str) (l : List Pair) :
    procPair ext { s with tok := a, passed := b, lastTok := c, pending := l } p =
      { procPair ext s p with tok := a, passed := b, lastTok := c, pending := l } := by
  obtain ⟨key, hr⟩ := hk
  obtain ⟨oid, hl⟩ := lookup_of_resolve _ _ _ hr
  rw [procPair_known ext { s with tok := a, passed := b, lastTok := c, pending := l } p key oid hr hl,
    procPair_known ext s p key oid hr hl]
  show (match save ext (s.P.node 0).mapKeysToLower (matched s oid key) p.args with | .error e => _ | .ok o' => _) = _
  cases save ext (s.P.node 0).mapKeysToLower (matched s oid key) p.args with
  | error e => rfl
  | ok o' => dsimp only; split <;> rfl

theorem procPair_known_obs (s s' : PState) (p : Pair) (h : ObsEq s s') (hk : Known s p) :
    ObsEq (procPair ext s p) (procPair ext s' p) := by
  obtain ⟨a, b, c, l, rfl⟩ := h.eq_book
  rw [procPair_known_book ext s p hk a b c l]; exact .book ..

theorem procPair_known_pending (s : PState) (p : Pair) (hk : Known s p) (l : List Pair) :
    procPair ext { s with pending := l } p = { procPair ext s p with pending := l } := by
  have e := procPair_known_book ext s p hk s.tok s.passed s.lastTok
  rw [e l, e s.pending]

theorem known_after (s : PState) (p q : Pair) (hq : Known s q) : Known (procPair ext s p) q := by
  obtain ⟨key, hr⟩ := hq
  have := procPair_cur_nodes ext s p
  exact ⟨key, by rw [this.1, this.2]; exact hr⟩

theorem drain_known_obs (ps : List Pair) (s s' : PState) (h : ObsEq s s') (hk : ∀ p ∈ ps, Known s p) :
    ObsEq (drain ext s ps) (drain ext s' ps) := by
  induction ps generalizing s s' with
  | nil => exact h.withPending _ _
  | cons p ps ih =>
    have h1 := procPair_known_obs ext _ _ p (h.withPending ps ps) (hk p (by simp))
    have hkn : ∀ q ∈ ps, Known (procPair ext { s with pending := ps } p) q :=
      fun q hq => known_after ext { s with pending := ps } p q (hk q (by simp [hq]))
    rw [drain_cons, drain_cons]
    exact byCtx_rel (Q := ObsEq) (by rw [h1.err]) h1.ctx.symm (fun _ => h1) (fun _ => ih _ _ h1 hkn)
      (fun _ _ _ => h1.withPending _ _) (fun _ => h1.withPending _ _) (fun _ => h1.withPending _ _)

/-- a flag occurrence: resolves to an option that takes no argument, given bare -/
structure FlagPair (s : PState) (p : Pair) : Prop where
  bare : p.args = []
  known : ∃ key oid, resolve (s.P.node s.cur) p.opt = [key] ∧ lookup key (s.P.node s.cur).opts = some oid ∧
    oid < s.P.opts.length ∧ (s.P.opt oid).max ≤ 0

theorem procPair_flag (s : PState) (p : Pair) (hf : FlagPair s p) :
    (procPair ext s p).err = s.err ∧ (procPair ext s p).ctx = s.ctx := by
  obtain ⟨key, oid, hr, hl, _, hmax⟩ := hf.known
  obtain ⟨o', hs, hm⟩ := save_nil_ok ext (s.P.node 0).mapKeysToLower (matched s oid key)
  have hs' : save ext (s.P.node 0).mapKeysToLower (matched s oid key) p.args = .ok o' := by rw [hf.bare]; exact hs
  have : ¬ ((p.args.length : Nat) : Int) < o'.max := by
    rw [hm, hf.bare]; simp [matched]; omega
  rw [(ProcPair.saved key oid o' hr hl hs').eq, if_neg this]
  exact ⟨rfl, rfl⟩

theorem flag_after (s : PState) (p q : Pair) (hq : FlagPair s q) : FlagPair (procPair ext s p) q := by
  obtain ⟨key, oid, hr, hl, hlen, hmax⟩ := hq.known
  have hcn := procPair_cur_nodes ext s p
  -- a pair changes neither the number of options nor the `max` of any
  have hm := procPair_moves (L := fun _ => True) (comp := none) ext s p trivial
  exact ⟨hq.bare, key, oid, by rw [hcn.1, hcn.2]; exact hr, by rw [hcn.1, hcn.2]; exact hl,
    by rw [hm.shape.2]; exact hlen, by rw [static_max (hm.static oid)]; exact hmax⟩

theorem FlagPair.of_eq {s s0 : PState} {p : Pair} (h : FlagPair s p) (hP : s0.P = s.P) (hc : s0.cur = s.cur) :
    FlagPair s0 p := by
  obtain ⟨key, oid, hr, hl, hlen, hmax⟩ := h.known
  exact ⟨h.bare, key, oid, by rw [hP, hc]; exact hr, by rw [hP, hc]; exact hl, by rw [hP]; exact hlen, by rw [hP]; exact hmax⟩

theorem FlagPair.toKnown {s : PState} {p : Pair} (h : FlagPair s p) : Known s p := by
  obtain ⟨key, _, hr, _⟩ := h.known; exact ⟨key, hr⟩

/-- `drain` overwrites the pending list before it reads it -/
theorem drain_pending (s : PState) (l ps : List Pair) : drain ext { s with pending := l } ps = drain ext s ps := by
  cases ps <;> rfl

theorem drain_flag_cons (s : PState) (p : Pair) (l : List Pair) (he : s.err = none) (hc : s.ctx = .idle)
    (hf : FlagPair s p) : drain ext s (p :: l) = drain ext (procPair ext s p) l := by
  have e := procPair_flag ext s p hf
  rw [drain_cons, procPair_known_pending ext s p hf.toKnown l,
    byCtx_idle (s := { procPair ext s p with pending := l }) (e.1.trans he) (e.2.trans hc)]
  exact drain_pending ext _ l l

theorem drain_flags (ps qs : List Pair) (s : PState) (he : s.err = none) (hc : s.ctx = .idle)
    (hf : ∀ p ∈ ps, FlagPair s p) :
    drain ext s (ps ++ qs) = drain ext (drain ext s ps) qs ∧ (drain ext s ps).err = none ∧ (drain ext s ps).ctx = .idle ∧
    (∀ q, Known s q → Known (drain ext s ps) q) := by
  induction ps generalizing s with
  | nil => exact ⟨(drain_pending ext s [] qs).symm, he, hc, fun q hq => hq.of_eq rfl rfl⟩
  | cons p ps ih =>
    have hp := hf p (by simp)
    have e := procPair_flag ext s p hp
    have ih' := ih _ (e.1.trans he) (e.2.trans hc) fun r hr => flag_after ext s p r (hf r (by simp [hr]))
    rw [List.cons_append, drain_flag_cons ext s p _ he hc hp, drain_flag_cons ext s p _ he hc hp]
    exact ⟨ih'.1, ih'.2.1, ih'.2.2.1, fun q hq => ih'.2.2.2 q (known_after ext s p q hq)⟩

/-- **A run of flags followed by more pairs**: processing `ps ++ qs` in one go is observationally the
same as processing the flags `ps` first and then `qs`. -/
theorem drain_append_flags (ps qs : List Pair) (s : PState) (he : s.err = none) (hc : s.ctx = .idle)
    (hf : ∀ p ∈ ps, FlagPair s p) (hq : ∀ q ∈ qs, Known s q) :
    ObsEq (drain ext s (ps ++ qs)) (drain ext (drain ext s ps) qs) ∧
    (drain ext s ps).err = none ∧ (drain ext s ps).ctx = .idle ∧
    (∀ q ∈ qs, Known (drain ext s ps) q) := by
  obtain ⟨h1, h2, h3, h4⟩ := drain_flags ext ps qs s he hc hf
  exact ⟨h1 ▸ .refl _, h2, h3, fun q hq' => h4 q (hq q hq')⟩

/-- `ts` are tokens that split into exactly the single pairs `ps`, one each -/
inductive Splits : List Str → List Pair → Prop
  | nil : Splits [] []
  | cons {t : Str} {p : Pair} {ts : List Str} {ps : List Pair} :
      isOption t mode = ([p], true) → Splits ts ps → Splits (t :: ts) (p :: ps)

/-- the flags of a bundle, processed in one go, against the separate tokens `-x`, `-y`, … -/
theorem flags_fold (ps : List Pair) (ts : List Str) (s : PState) (t0 : Str)
    (he : s.err = none) (hc : s.ctx = .idle)
    (hts : Splits mode ts ps)
    (hf : ∀ p ∈ ps, FlagPair s p) :
    ObsEq (drain ext (headState s t0) ps) (ts.foldl (step ext mode) s) := by
  induction hts generalizing s t0 with
  | nil => exact (ObsEq.book s _ _ _ _).symm
  | @cons t p ts ps htp _ ih =>
    have hp : FlagPair s p := hf p (by simp)
    have e := procPair_flag ext s p hp
    -- both the rest of the bundle and the next token start from `procPair ext s p`, up to the bookkeeping
    have h0 : ObsEq (procPair ext s p) (procPair ext (headState s t0) p) :=
      procPair_known_obs ext _ _ p (.book ..) hp.toKnown
    have h1 : ObsEq (procPair ext s p) (step ext mode s t) := by
      rw [step_single ext mode s t p he hc htp]
      exact procPair_known_obs ext _ _ p (.book ..) hp.toKnown
    rw [drain_flag_cons ext (headState s t0) p ps he hc (hp.of_eq rfl rfl), List.foldl_cons]
    refine (drain_known_obs ext ps _ _ (h0.symm.trans (h1.trans (.book ..))) fun q hq => ?_).trans
      (ih _ t0 (h1.err.symm.trans (e.1.trans he)) (h1.ctx.symm.trans (e.2.trans hc)) fun q hq => ?_)
    · exact known_after ext _ p q ((hf q (by simp [hq])).of_eq rfl rfl).toKnown
    · exact (flag_after ext s p q (hf q (by simp [hq]))).of_eq h1.P.symm h1.cur.symm

/-- **Bundling rewriting law at a head position.** If the token `t` splits into the flag pairs `ps`
followed by the pair `pz` of a declared option, `ts` are tokens that split into the single pairs of
`ps`, and `tl` splits into `pz`, then processing `t` and processing `ts ++ [tl]` leave states from which
every continuation behaves identically. -/
theorem bundle_rewrite_sim (s : PState) (t tl : Str) (ts : List Str) (ps : List Pair) (pz : Pair)
    (he : s.err = none) (hc : s.ctx = .idle)
    (ht : isOption t mode = (ps ++ [pz], true)) (hts : Splits mode ts ps)
    (htl : isOption tl mode = ([pz], true))
    (hf : ∀ p ∈ ps, FlagPair s p) (hz : Known s pz) :
    Sim (step ext mode s t) ((ts ++ [tl]).foldl (step ext mode) s) := by
  -- the bundle: its flags first, then the last pair; the separate tokens: the same flags, then `tl` at a head position
  obtain ⟨hsplit, he1, hc1, hK⟩ := drain_flags ext ps [pz] (headState s t) he hc fun q hq => (hf q hq).of_eq rfl rfl
  have hfold := flags_fold ext mode ps ts s t he hc hts hf
  rw [step_head_option ext mode s t _ he hc ht, hsplit, List.foldl_append, List.foldl_cons, List.foldl_nil,
    step_head_option ext mode _ tl [pz] (hfold.err.symm.trans he1) (hfold.ctx.symm.trans hc1) htl]
  exact sim_of_obs (drain_known_obs ext [pz] _ _ (hfold.trans (.book ..)) fun q hq => by
      rw [List.mem_singleton.mp hq]; exact hK pz (hz.of_eq rfl rfl))
    (drain_single_pending ext _ pz) (drain_single_pending ext _ pz)

theorem drain_single_sim (s : PState) (t t' : Str) (p : Pair) (hk : Known s p) :
    Sim (drain ext (headState s t) [p]) (drain ext (headState s t') [p]) :=
  sim_of_obs (drain_known_obs ext [p] _ _ (.book _ _ _ _ _) fun q hq => by rw [List.mem_singleton.mp hq]; exact hk)
    (drain_single_pending ext _ p) (drain_single_pending ext _ p)

theorem same_pair_sim (s : PState) (t t' : Str) (p : Pair)
    (he : s.err = none) (hc : s.ctx = .idle)
    (ht : isOption t mode = ([p], true)) (ht' : isOption t' mode = ([p], true)) (hk : Known s p) :
    Sim (step ext mode s t) (step ext mode s t') := by
  rw [step_head_option ext mode s t _ he hc ht, step_head_option ext mode s t' _ he hc ht']
  exact drain_single_sim ext s t t' p hk

/-- An abbreviation behaves exactly like the full name it resolves to: the whole state after the
occurrence is the same, including `UsedAlias` (so `CalledAs` reports the full name). -/
theorem abbrev_equiv (s : PState) (k k' : Str) (args : List Str)
    (h : resolve (s.P.node s.cur) k = [k']) (h' : resolve (s.P.node s.cur) k' = [k']) :
    procPair ext s ⟨k, args⟩ = procPair ext s ⟨k', args⟩ := by
  obtain ⟨oid, hl⟩ := lookup_of_resolve _ _ _ h
  rw [procPair_known ext s _ k' oid h hl, procPair_known ext s _ k' oid h' hl]

theorem abbrev_sim (s : PState) (t t' : Str) (k k' : Str) (args : List Str)
    (he : s.err = none) (hc : s.ctx = .idle)
    (ht : isOption t mode = ([⟨k, args⟩], true)) (ht' : isOption t' mode = ([⟨k', args⟩], true))
    (h : resolve (s.P.node s.cur) k = [k']) (h' : resolve (s.P.node s.cur) k' = [k']) :
    Sim (step ext mode s t) (step ext mode s t') := by
  have e : drain ext (headState s t) [⟨k, args⟩] = drain ext (headState s t) [⟨k', args⟩] := by
    rw [drain_single, drain_single]; exact abbrev_equiv ext _ k k' args h h'
  rw [step_head_option ext mode s t _ he hc ht, step_head_option ext mode s t' _ he hc ht', e]
  exact drain_single_sim ext s t t' _ ⟨k', h'⟩

end GoModel
