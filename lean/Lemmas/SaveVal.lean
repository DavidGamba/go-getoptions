import Model.Save
/-! `Save` changes the value cell only, and reads only `kind`, `value`, `boolDefault`, the valid-value list
and (for error messages) `name` and `usedAlias`.  `saveVal` is `save` on those, by kind.  The alias reaches the
result through the converters only, and there only the error value (`ErrRel`, up to `saveVal_rel`). -/
namespace GoModel

def Opt.setValue (o : Opt) (v : Val) : Opt := { o with value := v }

/-- `save` with at least one argument, past the valid-values gate -/
def saveArg (ext : Ext) (lower : Bool) (alias : Str) (bd : Bool) (k : Kind) (v : Val) (a0 : Str) (args : List Str) :
    Except PErr Val :=
  match k with
  | .str | .strOpt => .ok (.s a0)
  | .int | .intOpt => match atoi a0 with
    | some n => .ok (.i n)
    | none => .error (.convInt alias a0)
  | .flt | .fltOpt => if ext.floatOk a0 then .ok (.f a0) else .error (.convFloat alias a0)
  | .strs => match v with | .ss old => .ok (.ss (old ++ args)) | _ => .ok v
  | .ints => match v with | .is old => (convIntArgs alias args).map fun ii => .is (old ++ ii) | _ => .ok v
  | .flts => match v with | .fs old => (convFloatArgs ext alias args).map fun ff => .fs (old ++ ff) | _ => .ok v
  | .map => match v with | .m old => (saveMapArgs ext lower alias old args).map .m | _ => .ok v
  | .incr => match v with | .i n => .ok (.i (wrap64 (n + 1))) | _ => .ok v
  | .bool => .ok (.b (if a0 == b "true" then true else if a0 == b "false" then false else !bd))

/-- the value `save` stores -/
def saveVal (ext : Ext) (lower : Bool) (o : Opt) (args : List Str) : Except PErr Val :=
  match args with
  | [] => match o.kind with
    | .bool => .ok (.b (!o.boolDefault))
    | .incr => match o.value with | .i v => .ok (.i (wrap64 (v + 1))) | v => .ok v
    | _ => .ok o.value
  | a0 :: _ =>
    if !validGate o args then .error (.wrongValue o.name o.validValues)
    else saveArg ext lower o.usedAlias o.boolDefault o.kind o.value a0 args

theorem save_eq (ext : Ext) (lower : Bool) (o : Opt) (args : List Str) :
    save ext lower o args = (saveVal ext lower o args).map o.setValue := by
  -- with `kind` and `value` as variables both sides compute, kind by kind; what is left stuck is a
  -- conversion of the arguments, the same on both sides
  cases args with
  | nil =>
    rcases o with ⟨_, _, k, _, _, _, _, _, _, _, _, _, _, _, _, _, _, _, _, v⟩
    cases k
    case incr => cases v <;> rfl
    all_goals rfl
  | cons a0 r =>
    rw [save, saveVal]
    unfold saveArg Opt.setValue
    by_cases hg : (!validGate o (a0 :: r)) = true
    · rw [if_pos hg, if_pos hg]; rfl
    · rw [if_neg hg, if_neg hg]
      rcases o with ⟨_, _, k, _, _, _, _, _, _, _, _, _, _, _, _, _, _, _, _, v⟩
      dsimp only
      cases k
      case str | strOpt => rfl
      case strs | incr => cases v <;> rfl
      case int | intOpt => cases atoi a0 <;> rfl
      case flt | fltOpt => cases ext.floatOk a0 <;> rfl
      case bool => cases a0 == b "true" <;> cases a0 == b "false" <;> rfl
      case ints =>
        cases v
        case is old => cases convIntArgs _ _ <;> rfl
        all_goals rfl
      case flts =>
        cases v
        case fs old => cases convFloatArgs _ _ _ <;> rfl
        all_goals rfl
      case map =>
        cases v
        case m old => dsimp only; cases saveMapArgs _ _ _ _ _ <;> rfl
        all_goals rfl

/-- a successful `save` returns the record it was given, with another value -/
theorem save_ok (ext : Ext) (lower : Bool) {o o' : Opt} {args : List Str} (h : save ext lower o args = .ok o') :
    o' = o.setValue o'.value := by
  rw [save_eq] at h
  cases hv : saveVal ext lower o args with
  | error e => rw [hv] at h; cases h
  | ok v => rw [hv] at h; cases h; rfl

/-- without arguments `save` cannot fail -/
theorem save_nil_ok (ext : Ext) (lower : Bool) (o : Opt) : ∃ o', save ext lower o [] = .ok o' ∧ o'.max = o.max := by
  have : ∃ v, saveVal ext lower o [] = .ok v := by
    rw [saveVal]
    split
    · exact ⟨_, rfl⟩
    · split <;> exact ⟨_, rfl⟩
    · exact ⟨_, rfl⟩
  obtain ⟨v, hv⟩ := this
  exact ⟨o.setValue v, by rw [save_eq, hv]; rfl, rfl⟩

/-- no value: every kind but bool and increment is left alone -/
theorem save_none_other (ext : Ext) (lower : Bool) (o : Opt) (hb : o.kind ≠ .bool) (hi : o.kind ≠ .incr) :
    save ext lower o [] = .ok o := by
  rw [save_eq, saveVal]
  split
  · exact absurd ‹_› hb
  · exact absurd ‹_› hi
  · rfl

def PErr.noAlias : PErr → PErr
  | .convInt _ t => .convInt [] t
  | .convFloat _ t => .convFloat [] t
  | .notKeyValue _ => .notKeyValue []
  | .missingArg _ => .missingArg []
  | .dashArg _ => .dashArg []
  | e => e

def ErrRel {α} : Except PErr α → Except PErr α → Prop
  | .ok a, .ok c => a = c
  | .error e, .error e' => e.noAlias = e'.noAlias
  | _, _ => False

theorem ErrRel.refl {α} (x : Except PErr α) : ErrRel x x := by cases x <;> exact rfl

theorem ErrRel.ok_left {α} {a : α} {y : Except PErr α} (h : ErrRel (.ok a) y) : y = .ok a := by
  cases y
  · exact h.elim
  · exact congrArg _ (Eq.symm h)

theorem ErrRel.map {α β} {x y : Except PErr α} (f : α → β) (h : ErrRel x y) : ErrRel (x.map f) (y.map f) := by
  cases x <;> cases y
  · exact h
  · exact h.elim
  · exact h.elim
  · exact congrArg f h

theorem ErrRel.bind {α β} {x y : Except PErr α} {f g : α → Except PErr β} (h : ErrRel x y)
    (hf : ∀ a, ErrRel (f a) (g a)) : ErrRel (x >>= f) (y >>= g) := by
  cases x <;> cases y
  · exact h
  · exact h.elim
  · exact h.elim
  · cases (h : _ = _); exact hf _

theorem convIntArg_rel (u u' e : Str) : ErrRel (convIntArg u e) (convIntArg u' e) := by
  unfold convIntArg
  split
  · split
    · split <;> exact rfl
    · exact rfl
  · split <;> exact rfl

theorem convIntArgs_rel (u u' : Str) (l : List Str) : ErrRel (convIntArgs u l) (convIntArgs u' l) := by
  induction l with
  | nil => exact rfl
  | cons e r ih => exact (convIntArg_rel u u' e).bind fun _ => ih.bind fun _ => rfl

theorem convFloatArgs_rel (ext : Ext) (u u' : Str) (l : List Str) :
    ErrRel (convFloatArgs ext u l) (convFloatArgs ext u' l) := by
  induction l with
  | nil => exact rfl
  | cons e r ih =>
    simp only [convFloatArgs]
    split
    · exact ih.bind fun _ => rfl
    · exact rfl

theorem saveMapArgs_rel (ext : Ext) (lower : Bool) (u u' : Str) (l : List Str) (m : List (Str × Str)) :
    ErrRel (saveMapArgs ext lower u m l) (saveMapArgs ext lower u' m l) := by
  induction l generalizing m with
  | nil => exact rfl
  | cons e r ih =>
    simp only [saveMapArgs]
    split
    · exact ih _
    · exact rfl

/-- the alias enters `saveArg` through one parameter, and only into error messages -/
theorem saveArg_rel (ext : Ext) (lower : Bool) (u u' : Str) (bd : Bool) (k : Kind) (v : Val) (a0 : Str)
    (args : List Str) : ErrRel (saveArg ext lower u bd k v a0 args) (saveArg ext lower u' bd k v a0 args) := by
  cases k
  case int | intOpt => simp only [saveArg]; cases atoi a0 <;> exact rfl
  case flt | fltOpt => simp only [saveArg]; cases ext.floatOk a0 <;> exact rfl
  case ints =>
    cases v
    case is old => exact (convIntArgs_rel u u' args).map _
    all_goals exact ErrRel.refl _
  case flts =>
    cases v
    case fs old => exact (convFloatArgs_rel ext u u' args).map _
    all_goals exact ErrRel.refl _
  case map =>
    cases v
    case m old => exact (saveMapArgs_rel ext lower u u' args old).map _
    all_goals exact ErrRel.refl _
  all_goals exact ErrRel.refl _

theorem saveVal_rel (ext : Ext) (lower : Bool) (a : Opt) (u : Str) (args : List Str) :
    ErrRel (saveVal ext lower a args) (saveVal ext lower { a with usedAlias := u } args) := by
  cases args with
  | nil => exact ErrRel.refl _
  | cons a0 r =>
    simp only [saveVal]
    have hv : validGate ({ a with usedAlias := u } : Opt) (a0 :: r) = validGate a (a0 :: r) := rfl
    rw [hv]
    split
    · exact rfl
    · exact saveArg_rel ext lower _ _ _ _ _ _ _

end GoModel
