import Lemmas.Sort
import Model.Help
/-! The entry lists the help text is rendered from: sorting the options by name, the names listed, the widest entry. -/
namespace GoModel

theorem insertByName_map (P : Prog) (x : Nat) (l : List Nat) :
    (insertByName P x l).map (fun o => (P.opt o).name) = insertSorted (P.opt x).name (l.map fun o => (P.opt o).name) := by
  induction l with
  | nil => rfl
  | cons y ys ih =>
    simp only [insertByName, List.map_cons, insertSorted]
    split
    · rfl
    · simp [ih]

theorem sortByName_map (P : Prog) (l : List Nat) :
    (sortByName P l).map (fun o => (P.opt o).name) = sortStrs (l.map fun o => (P.opt o).name) := by
  induction l with
  | nil => rfl
  | cons x xs ih => simp only [sortByName, List.map_cons, sortStrs]; rw [insertByName_map, ih]

theorem insertByName_perm (P : Prog) (x : Nat) (l : List Nat) : (insertByName P x l).Perm (x :: l) := by
  induction l with
  | nil => simp [insertByName]
  | cons y ys ih =>
    simp only [insertByName]
    split
    · exact List.Perm.refl _
    · exact (List.Perm.cons y ih).trans (List.Perm.swap x y ys)

theorem sortByName_perm (P : Prog) (l : List Nat) : (sortByName P l).Perm l := by
  induction l with
  | nil => simp [sortByName]
  | cons x xs ih => exact (insertByName_perm P x _).trans (List.Perm.cons x ih)

theorem inj_of_nodup_map {α β} (f : α → β) (l : List α) (h : (l.map f).Nodup) :
    ∀ x ∈ l, ∀ y ∈ l, f x = f y → x = y := by
  have hp := List.pairwise_map.mp h
  exact fun x hx y hy => List.Pairwise.forall_of_forall_of_flip (R := fun x y => f x = f y → x = y)
    (fun _ _ _ => rfl) (hp.imp fun hne e => absurd e hne) (hp.imp fun hne e => absurd e.symm hne) hx hy

/-- **sorting by name forgets the input order** when the names are distinct: both results are sorted by the
names (`sortByName_map`), and on the list the order of the names is antisymmetric -/
theorem sortByName_perm_eq (P : Prog) (l l' : List Nat) (hp : l.Perm l')
    (hnd : (l.map fun o => (P.opt o).name).Nodup) : sortByName P l = sortByName P l' := by
  have sorted : ∀ l, (sortByName P l).Pairwise fun a c => le (P.opt a).name (P.opt c).name = true := fun l =>
    List.pairwise_map.mp (sortByName_map P l ▸ sortStrs_sorted _)
  refine List.Perm.eq_of_pairwise (fun a c ha hc h1 h2 => ?_) (sorted l) (sorted l')
    ((sortByName_perm P l).trans (hp.trans (sortByName_perm P l').symm))
  exact inj_of_nodup_map _ l hnd a ((sortByName_perm P l).mem_iff.mp ha) c
    (hp.mem_iff.mpr ((sortByName_perm P l').mem_iff.mp hc)) (le_antisymm _ _ h1 h2)

theorem helpOptions_names (P : Prog) (nd : Node) :
    (helpOptions P nd).map (fun o => (P.opt o).name) =
      (nd.opts.filter fun kv => kv.1 == (P.opt kv.2).name).map (·.1) := by
  unfold helpOptions
  rw [List.map_map]
  apply List.map_congr_left
  intro kv hkv
  have := (List.mem_filter.mp hkv).2
  simp only [Function.comp]
  exact (by simpa using this : kv.1 = (P.opt kv.2).name).symm

theorem helpOptions_names_nodup (P : Prog) (nd : Node) (hnd : (nd.opts.map (·.1)).Nodup) :
    ((helpOptions P nd).map fun o => (P.opt o).name).Nodup := by
  rw [helpOptions_names]
  exact List.Nodup.sublist (List.Sublist.map _ List.filter_sublist) hnd

/-- the widest entry does not depend on the order: the step of `maxLen` is `max` -/
theorem maxLen_perm (l l' : List Str) (h : l.Perm l') : maxLen l = maxLen l' := by
  have hf : ∀ (m : Nat) (s : Str), (if s.length > m then s.length else m) = max m s.length := by
    intro m s; split <;> omega
  refine h.foldl_eq' (fun x _ y _ z => ?_) 0
  simp only [hf]
  rw [Nat.max_assoc, Nat.max_comm x.length, ← Nat.max_assoc]

theorem flatMap_congr' {α β} (l : List α) (f g : α → List β) (h : ∀ x ∈ l, f x = g x) :
    l.flatMap f = l.flatMap g := by
  rw [List.flatMap_def, List.flatMap_def, List.map_congr_left h]

/-- the commands listed for the level (the help command left out) have distinct keys (the table is a Go map;
`AddChildCommand` refuses a duplicate) -/
def CmdNamesDistinct (P : Prog) (n : Nat) : Prop :=
  ((helpCommands (P.node n)).map (·.1)).Nodup

theorem helpCommands_nodup (nd : Node) (h : (nd.cmds.map (·.1)).Nodup) : ((helpCommands nd).map (·.1)).Nodup :=
  (List.filter_sublist.map _).nodup h

end GoModel
