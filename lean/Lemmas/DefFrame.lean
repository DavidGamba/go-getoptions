import Lemmas.Define
import Lemmas.Prog
import Lemmas.Untouched
/-!
# Definition calls never touch an option record that already exists

`Prog.opts` only grows at its end: every definition call either leaves the list alone (all node-level calls,
`NewCommand` and its `copyOptionsFromParent`, `HelpCommand`'s tree walk) or appends one record and then edits
that record only (the twelve option constructors and their modifiers, the help option).  Hence the record an
option constructor produced — default, value read from the environment, `Called`, `CalledAs`, aliases … — is
exactly what the parser starts from, whatever else the program defines before and after
(`defined_record_final`), and what it ends with unless the command line mentions the option
(`defined_record_after_parse`).  The record itself is the fold of the modifiers' effects over the fresh record
(`defineOpt_record`).
-/
namespace GoModel

variable (ext : Ext) (env : Env)

/-- `Q` keeps every option record of `P` -/
def OptsKeep (P Q : Prog) : Prop :=
  P.opts.length ≤ Q.opts.length ∧ ∀ j, j < P.opts.length → Q.opts[j]? = P.opts[j]?

theorem OptsKeep.refl (P : Prog) : OptsKeep P P := ⟨Nat.le_refl _, fun _ _ => rfl⟩
theorem OptsKeep.trans {A B C : Prog} (h1 : OptsKeep A B) (h2 : OptsKeep B C) : OptsKeep A C :=
  ⟨Nat.le_trans h1.1 h2.1, fun j hj => by rw [h2.2 j (Nat.lt_of_lt_of_le hj h1.1), h1.2 j hj]⟩
theorem OptsKeep.of_eq {P Q : Prog} (h : Q.opts = P.opts) : OptsKeep P Q := by
  unfold OptsKeep; rw [h]; exact ⟨Nat.le_refl _, fun _ _ => rfl⟩
theorem OptsKeep.opt {P Q : Prog} (h : OptsKeep P Q) (j : Nat) (hj : j < P.opts.length) : Q.opt j = P.opt j := by
  unfold Prog.opt
  have := h.2 j hj
  simp only [List.getD_eq_getElem?_getD, this]

theorem addChildOption_opts {P P' : Prog} {n : Nat} {key : Str} {oid : Nat}
    (h : addChildOption P n key oid = .ok P') : P'.opts = P.opts := by
  rw [(addChildOption_ok h).2]; rfl

theorem addAliases_opts {names : List Str} {P P' : Prog} {n oid : Nat}
    (h : addAliases P n oid names = .ok P') : P'.opts = P.opts :=
  addAliases_induct (I := fun Q => Q.opts = P.opts) (fun _ _ _ _ i => i) names h rfl

/-- what one modifier does to the option record it is attached to -/
def modEffect (o : Opt) (m : Mod) : Opt :=
  match m with
  | .alias names => { o with aliases := o.aliases ++ names }
  | .description s => { o with description := s }
  | .setCalled v => { o with called := v }
  | .required msg => { o with required := true, requiredMsg := msg.getD [] }
  | .getEnv name => applyGetEnv ext env o name
  | .argName s => { o with helpArgName := s }
  | .validValues vs => { o with validValues := o.validValues ++ vs, suggested := o.validValues ++ vs }
  | .suggestedValues vs => { o with suggested := o.suggested ++ vs }
  | .suggestedValuesFn f => { o with suggestFn := some f }

variable {ext env} in
theorem applyMod_opts {P P' : Prog} {n oid : Nat} {m : Mod} (h : applyMod ext env P n oid m = .ok P') :
    P'.opts = P.opts.set oid (modEffect ext env (P.opt oid) m) := by
  cases m with
  | alias names =>
    simp only [applyMod] at h
    rw [addAliases_opts h]; rfl
  | _ => cases h; rfl

variable {ext env} in
theorem applyMods_opts {ms : List Mod} {P P' : Prog} {n oid : Nat} (hoid : oid < P.opts.length)
    (h : applyMods ext env P n oid ms = .ok P') :
    P'.opts = P.opts.set oid (ms.foldl (modEffect ext env) (P.opt oid)) := by
  induction ms generalizing P with
  | nil =>
    cases h
    simp only [List.foldl_nil, Prog.opt]
    rw [List.getD_eq_getElem?_getD, List.getElem?_eq_getElem hoid]
    simp
  | cons m r ih =>
    obtain ⟨P1, h1, h⟩ := bind_eq_ok.mp h
    have e1 := applyMod_opts h1
    have hl : oid < P1.opts.length := by rw [e1]; simpa using hoid
    rw [ih hl h, e1]
    have : P1.opt oid = modEffect ext env (P.opt oid) m := by
      rw [opt_eq_getElem P1 oid hl]; simp [e1]
    rw [this, List.set_set]
    rfl

/-- **An option constructor** appends exactly one record: the fresh record with the modifiers' effects
applied in call order. -/
theorem defineOpt_record (P P' : Prog) (n : Nat) (kind : Kind) (name : Str) (dflt : Val) (dstr : Str)
    (min max : Int) (mods : List Mod)
    (h : defineOpt ext env P n kind name dflt dstr min max mods = .ok P') :
    P'.opts = P.opts ++ [mods.foldl (modEffect ext env) (freshOpt kind name dflt dstr min max)] := by
  rw [defineOpt_eq] at h
  obtain ⟨P2, h2, h⟩ := bind_eq_ok.mp h
  have e2 := addChildOption_opts h2
  have hl : P.opts.length < P2.opts.length := by rw [e2]; simp
  rw [applyMods_opts hl h, e2]
  have : P2.opt P.opts.length = freshOpt kind name dflt dstr min max := by
    rw [opt_eq_getElem P2 _ hl]; simp [e2]
  rw [this]
  simp

variable {ext env} in
theorem defineOpt_keep {P P' : Prog} {n : Nat} {kind : Kind} {name : Str} {dflt : Val} {dstr : Str}
    {min max : Int} {mods : List Mod}
    (h : defineOpt ext env P n kind name dflt dstr min max mods = .ok P') : OptsKeep P P' := by
  have e := defineOpt_record ext env P P' n kind name dflt dstr min max mods h
  refine ⟨by rw [e]; simp, fun j hj => ?_⟩
  rw [e, List.getElem?_append_left hj]

theorem copyOpts_opts (fuel : Nat) (P : Prog) (parent : Nat) : (copyOpts fuel P parent).opts = P.opts :=
  copyOpts_induct (I := fun Q => Q.opts = P.opts) (fun _ _ _ i => i) fuel P parent rfl

theorem addHelpCmds_opts {name : Str} {ns : List Nat} {P P' : Prog}
    (h : addHelpCmds name ns P = .ok P') : P'.opts = P.opts :=
  addHelpCmds_induct (I := fun Q => Q.opts = P.opts) (fun _ _ _ _ _ _ _ i => i) h rfl

theorem markHelp_opts (name : Str) (xs : List Nat) (P : Prog) : (markHelp name xs P).opts = P.opts :=
  markHelp_induct (I := fun Q => Q.opts = P.opts) name (fun _ _ i => i) xs P rfl

/-- **One definition call keeps every existing option record.** -/
theorem buildStep_keep (s s' : BState) (op : DefOp) (h : buildStep ext env s op = .ok s') :
    OptsKeep s.P s'.P := by
  refine buildStep_cases (motive := fun t => OptsKeep s.P t.P) h ?_ ?_ ?_ ?_
  · intro _ _ _ _ _ _; exact .of_eq rfl
  · intro _ n kind name dflt dstr mn mx mods P' _ hP
    exact defineOpt_keep hP
  · intro _ p name desc _ _
    exact .of_eq (copyOpts_opts ..)
  · intro _ n name mods P1 P3 _ hP1 hP3
    refine (defineOpt_keep hP1).trans (.of_eq ?_)
    rw [copyOpts_opts, addHelpCmds_opts hP3, markHelp_opts]

variable {ext env} in
theorem buildFrom_keep {ops : List DefOp} {s s' : BState} (h : buildFrom ext env s ops = .ok s') :
    OptsKeep s.P s'.P :=
  buildFrom_induct (I := fun t => OptsKeep s.P t.P)
    (fun t t' op ht i => i.trans (buildStep_keep ext env t t' op ht)) ops h (.refl _)

/-- **The record of a defined option is final.**  In any accepted definition script, the record produced by
an option constructor — the fresh record with its modifiers applied in call order — is, after the *whole*
script, still the record with the id it was given, whatever the script defines before and after. -/
theorem defined_record_final (root : Str) (pre post : List DefOp) (hd : Nat) (kind : Kind) (name : Str)
    (dflt : Val) (dstr : Str) (min max : Int) (mods : List Mod) (st : BState)
    (h : buildB ext env root (pre ++ [.opt hd kind name dflt dstr min max mods] ++ post) = .ok st) :
    ∃ mid, buildB ext env root pre = .ok mid ∧
      st.P.opt mid.P.opts.length = mods.foldl (modEffect ext env) (freshOpt kind name dflt dstr min max) := by
  unfold buildB at h ⊢
  rw [List.append_assoc] at h
  obtain ⟨mid, h1, h2⟩ := buildFrom_append h
  refine ⟨mid, h1, ?_⟩
  obtain ⟨m2, h3, h4⟩ := buildFrom_append h2
  obtain ⟨s1, hs1, h3⟩ := bind_eq_ok.mp h3
  cases h3
  obtain ⟨n, P, -, hP, rfl⟩ := buildStep_opt_ok hs1
  have e := defineOpt_record ext env mid.P P n kind name dflt dstr min max mods hP
  have hl : mid.P.opts.length < P.opts.length := by rw [e]; simp
  rw [(buildFrom_keep h4).opt _ hl, opt_eq_getElem P _ hl]
  simp [e]

/-- … and after any command line that does not mention the option it still is: definition script, then parse -/
theorem defined_record_after_parse (mode : Mode) (root : Str) (pre post : List DefOp) (hd : Nat) (kind : Kind)
    (name : Str) (dflt : Val) (dstr : Str) (min max : Int) (mods : List Mod) (st : BState)
    (h : buildB ext env root (pre ++ [.opt hd kind name dflt dstr min max mods] ++ post) = .ok st) :
    ∃ mid, buildB ext env root pre = .ok mid ∧ ∀ args, ¬ Mentioned mode st.P args mid.P.opts.length →
      (parseArgs ext mode st.P args).P.opt mid.P.opts.length =
        mods.foldl (modEffect ext env) (freshOpt kind name dflt dstr min max) := by
  obtain ⟨mid, h1, h2⟩ := defined_record_final ext env root pre post hd kind name dflt dstr min max mods st h
  exact ⟨mid, h1, fun args hnm =>
    (later_unmentioned_keeps ext mode (initState st.P) args _ hnm rfl fun _ _ h => nomatch h).trans h2⟩

end GoModel
