import Model.Basic
/-! Bytewise order, `sortStrs` (= `sort.Strings`): sorted, a permutation, and independent of the input order. -/
namespace GoModel

/-- the lexicographic `≤` on byte strings written directly (equal to `strLe`, see `strLe_eq_le`) -/
def le : Str → Str → Bool
  | [], _ => true
  | _ :: _, [] => false
  | a :: as, c :: cs => if a < c then true else if c < a then false else le as cs

theorem strLe_eq_le (a c : Str) : strLe a c = le a c := by
  induction a generalizing c with
  | nil => cases c <;> simp [strLe, strLt, le]
  | cons x xs ih =>
    cases c with
    | nil => simp [strLe, strLt, le]
    | cons y ys =>
      simp only [strLe, strLt, le]
      by_cases h1 : y < x
      · have : ¬ x < y := UInt8.lt_asymm h1
        simp [h1, this]
      · by_cases h2 : x < y
        · simp [h1, h2]
        · simp only [h1, h2, ↓reduceIte]
          have := ih ys
          simpa [strLe] using this

theorem le_iff (a c : Str) : le a c = true ↔ a ≤ c := by
  induction a generalizing c with
  | nil => simp [le]
  | cons x xs ih =>
    cases c with
    | nil => simp [le]
    | cons y ys =>
      rw [List.cons_le_cons_iff, ← ih, le]
      by_cases h1 : x < y
      · simp [h1]
      · by_cases h2 : y < x
        · have : x ≠ y := fun e => by subst e; exact h1 h2
          simp [h1, h2, this]
        · have : x = y := UInt8.le_antisymm (UInt8.not_lt.1 h2) (UInt8.not_lt.1 h1)
          subst this
          simp [h1]

theorem le_total (a c : Str) : le a c || le c a := by
  rw [Bool.or_eq_true, le_iff, le_iff]; exact List.le_total a c

theorem le_trans (a c d : Str) : le a c → le c d → le a d := by
  rw [le_iff, le_iff, le_iff]; exact List.le_trans

theorem le_antisymm (a c : Str) : le a c → le c a → a = c := by
  rw [le_iff, le_iff]; exact List.le_antisymm

theorem insertSorted_perm (x : Str) (l : List Str) : (insertSorted x l).Perm (x :: l) := by
  induction l with
  | nil => simp [insertSorted]
  | cons y ys ih =>
    simp only [insertSorted]
    split
    · exact List.Perm.refl _
    · exact (List.Perm.cons y ih).trans (List.Perm.swap x y ys)

theorem sortStrs_perm (l : List Str) : (sortStrs l).Perm l := by
  induction l with
  | nil => simp [sortStrs]
  | cons x xs ih => exact (insertSorted_perm x _).trans (List.Perm.cons x ih)

theorem mem_sortStrs (l : List Str) (x : Str) : x ∈ sortStrs l ↔ x ∈ l := (sortStrs_perm l).mem_iff

theorem insertSorted_sorted (x : Str) (l : List Str) (h : l.Pairwise (fun a c => le a c = true)) :
    (insertSorted x l).Pairwise (fun a c => le a c = true) := by
  induction l with
  | nil => exact List.pairwise_singleton _ _
  | cons y ys ih =>
    rw [List.pairwise_cons] at h
    rw [insertSorted, strLe_eq_le]
    split
    · rename_i hxy
      exact List.pairwise_cons.mpr
        ⟨fun z hz => (List.mem_cons.mp hz).elim (· ▸ hxy) fun hz => le_trans x y z hxy (h.1 z hz), List.pairwise_cons.mpr h⟩
    · rename_i hxy
      have hyx : le y x = true := ((Bool.or_eq_true _ _).mp (le_total x y)).resolve_left hxy
      exact List.pairwise_cons.mpr
        ⟨fun z hz => (List.mem_cons.mp ((insertSorted_perm x ys).mem_iff.mp hz)).elim (· ▸ hyx) (h.1 z), ih h.2⟩

theorem sortStrs_sorted (l : List Str) : (sortStrs l).Pairwise (fun a c => le a c = true) := by
  induction l with
  | nil => simp [sortStrs]
  | cons x xs ih => exact insertSorted_sorted x _ ih

/-- **Order independence of `sort.Strings`**: any two iteration orders of the same collection sort
to the same list. -/
theorem sortStrs_perm_eq (l l' : List Str) (h : l.Perm l') : sortStrs l = sortStrs l' := by
  have p : (sortStrs l).Perm (sortStrs l') := (sortStrs_perm l).trans (h.trans (sortStrs_perm l').symm)
  exact List.Perm.eq_of_pairwise (fun a c _ _ h1 h2 => le_antisymm a c h1 h2) (sortStrs_sorted l) (sortStrs_sorted l') p

end GoModel
