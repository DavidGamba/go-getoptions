import Lemmas.SchedStep
/-! Reachable states, the configurations `Run` schedules, the error log of a trace, and the semaphore bound `HInv`.
The `…_step` lemmas take everything explicitly, invariant hypotheses first, so that `sinv_step c hc` is the step
argument of `Reachable.induct` as it stands. -/
namespace GoModel.Dag

/-- the scheduler states `Run` can be in: reached from the initial state by an accepted trace (`i`, the position the
acceptor reports a refused event at, plays no part) -/
def Reachable (c : Cfg) (s : Sched) : Prop := ∃ evs i, accept c initSched evs i = .ok s

theorem Reachable.induct {c : Cfg} {s : Sched} {P : Sched → Prop} (h0 : P initSched)
    (hstep : ∀ s s' ev, P s → step? c s ev = some s' → P s') (hr : Reachable c s) : P s := by
  obtain ⟨evs, i, ha⟩ := hr
  exact accept_induct hstep evs _ _ i h0 ha

theorem reachable_sinv (c : Cfg) (hc : AncOK c) (s : Sched) (h : Reachable c s) : SInv c s :=
  h.induct (sinv_init c) (sinv_step c hc)

/-- the configuration `Run` schedules: a graph built from a call history that passed the cycle check -/
structure Scheduled (c : Cfg) : Prop where
  built : ∃ ops, c.g = buildGraph ops
  sorted : ∃ l, dfs c.g = .ok l

theorem Scheduled.ginv {c : Cfg} (h : Scheduled c) : GInv c.g := by
  obtain ⟨ops, hops⟩ := h.built
  rw [hops]; exact buildGraph_inv ops

theorem Scheduled.ancOK {c : Cfg} (h : Scheduled c) : AncOK c := by
  obtain ⟨l, hl⟩ := h.sorted
  exact ancOK_of_dfs c h.ginv l hl

theorem step_errs (c : Cfg) (s s' : Sched) (ev : Event) (hs : step? c s ev = some s') :
    s'.errs = s.errs ++ (entryOf ev).toList := (step?_step hs).errs

/-- **The final report**: the error list after a trace is exactly one entry per failed final attempt,
one `ErrorTaskSkipped` entry per vertex completed in error mode, and the cancellation entry, in order. -/
theorem accept_errs (c : Cfg) (evs : List Event) (s s' : Sched) (i : Nat) (ha : accept c s evs i = .ok s') :
    s'.errs = s.errs ++ evs.filterMap entryOf := by
  induction evs generalizing s i with
  | nil => simp [accept] at ha; simp [ha]
  | cons ev evs ih =>
    obtain ⟨s1, hs1, ha⟩ := accept_cons_ok.mp ha
    rw [ih s1 (i + 1) ha, step_errs c s s1 ev hs1]
    cases h : entryOf ev <;> simp [h]

/-- changing a predicate at one place of a duplicate-free list raises the count by at most one -/
theorem countP_change (l : List Nat) (v : Nat) (p q : Nat → Bool) (hn : l.Nodup) (h : ∀ y, y ≠ v → p y = q y) :
    l.countP q ≤ l.countP p + 1 := by
  induction l with
  | nil => simp
  | cons a r ih =>
    simp only [List.nodup_cons] at hn
    by_cases hav : a = v
    · subst hav
      have hr : r.countP q = r.countP p :=
        List.countP_congr fun y hy => by rw [h y fun e => hn.1 (e ▸ hy)]
      simp only [List.countP_cons, hr]
      split <;> split <;> omega
    · have := ih hn.2
      simp only [List.countP_cons, h a hav]
      omega

theorem holders_eq_countP (c : Cfg) (s : Sched) : holders c s = c.g.ids.countP (fun v => (s.get v).sem) := by
  simp [holders, List.countP_eq_length_filter]

/-- a task goroutine that is past the acquire and has not handed over its result holds a slot -/
def VState.slotOk (x : VState) : Prop :=
  (x.fl = .waitLock ∨ (∃ k, x.fl = .idle k) ∨ (∃ k, x.fl = .running k)) → x.sem = true

/-- semaphore discipline: at most `maxParallel` slots are held, and every goroutine that should hold one does -/
structure HInv (c : Cfg) (s : Sched) : Prop where
  bound : holders c s ≤ c.maxParallel
  held : ∀ v, (s.get v).slotOk

theorem hinv_init (c : Cfg) : HInv c initSched := by
  constructor
  · have : (c.g.ids.filter fun _ => false) = [] := by induction c.g.ids <;> simp_all
    simp [holders, initSched, Sched.get, this]
  · intro v h; simp [initSched, Sched.get] at h

variable {c : Cfg} {s : Sched} {ev : Event} {v : Nat} {x : VState}

theorem VStep.slotOk (h : VStep c s v ev x) (ho : (s.get v).slotOk) : x.slotOk := by
  cases h with
  | pickReal | leaveSend => intro hx; simp at hx
  | pickSkip | pickErr => exact ho
  | recv r =>
    intro hx; rw [VState.recv_sem]; apply ho
    rw [VState.recv_fl] at hx; split at hx
    · simp at hx
    · exact hx
  | semAcq => exact fun _ => rfl
  | lockAcq hf => exact fun _ => ho (.inl hf)
  | enter k hf => exact fun _ => ho (.inr (.inl ⟨k, hf⟩))
  | leaveRetry k _ hf => exact fun _ => ho (.inr (.inr ⟨k, hf⟩))
  | semRel _ hf => rcases hf with hf | ⟨r, hf⟩ <;> simp [VState.slotOk, hf]

/-- only `semAcq` takes a slot, and only while one is free -/
theorem VStep.sem (h : VStep c s v ev x) : (x.sem = true → (s.get v).sem = true) ∨ holders c s < c.maxParallel := by
  cases h with
  | semAcq _ hh => exact .inr hh
  | recv r => exact .inl fun h => by rwa [VState.recv_sem] at h
  | semRel => exact .inl fun h => nomatch h
  | _ => exact .inl id

theorem holders_set_mono (hm : x.sem = true → (s.get v).sem = true) : holders c (s.set v x) ≤ holders c s := by
  rw [holders_eq_countP, holders_eq_countP]
  apply List.countP_mono_left
  intro y _ hy
  rw [get_set] at hy; split at hy
  · rename_i e; subst e; exact hm hy
  · exact hy

theorem holders_set_succ (hn : c.g.ids.Nodup) : holders c (s.set v x) ≤ holders c s + 1 := by
  rw [holders_eq_countP, holders_eq_countP]
  exact countP_change c.g.ids v _ _ hn fun y hy => by rw [get_set_ne _ _ _ _ hy]

theorem holders_mark (c : Cfg) (s : Sched) (v : Nat) : holders c (markAncestors c s v) = holders c s := by
  rw [holders_eq_countP, holders_eq_countP]
  apply List.countP_congr
  intro y _
  rw [markAncestors_get]; split <;> simp [markOne]

theorem hinv_step (c : Cfg) (hn : c.g.ids.Nodup) (s s' : Sched) (ev : Event) (h : HInv c s)
    (hs : step? c s ev = some s') : HInv c s' := by
  have hst := step?_step hs
  have set : ∀ {v x} {ev : Event}, VStep c s v ev x → holders c (s.set v x) ≤ c.maxParallel := by
    intro v x ev hv
    rcases hv.sem with hm | hlt
    · exact Nat.le_trans (holders_set_mono hm) h.bound
    · exact Nat.le_trans (holders_set_succ hn) hlt
  constructor
  · cases hst with
    | vertex hv _ => exact set hv
    | skip hv => rw [holders_mark]; exact set hv
    | cancel | idle | exit => exact h.bound
  · exact fun y => hst.lift y (h.held y) (fun _ hv => hv.slotOk (h.held y)) fun _ hx => hx

theorem reachable_hinv (c : Cfg) (hn : c.g.ids.Nodup) (s : Sched) (h : Reachable c s) : HInv c s :=
  h.induct (hinv_init c) (hinv_step c hn)

end GoModel.Dag
