import Model.Help
/-! Pieces of the rendered help text: equations for the option list and the command list, and that an entry, a block,
a synopsis item is a contiguous part (`<:+:`) of the piece that prints it. -/
namespace GoModel

theorem infix_flatMap_of_mem {α} (f : α → Str) (l : List α) (x : α) (h : x ∈ l) : f x <:+: l.flatMap f := by
  rw [List.flatMap_def]
  exact List.infix_of_mem_flatten (List.mem_map_of_mem h)

/-- the padding factor of a level's option list -/
def helpFactor (P : Prog) (nd : Node) : Nat :=
  let l0 := maxLen ((helpOptions P nd).map fun o => synopsisOf (P.opt o))
  (if showArgs nd.synArgs then Nat.max l0 (maxLen (nd.synArgs.map (·.1))) else l0) + 4

/-- the block of the required options, header included -/
def requiredBlock (ext : Ext) (P : Prog) (nd : Node) : Str :=
  ext.hdrRequired ++ b ":\n" ++ (requiredOpts P nd).flatMap fun o => helpString (P.opt o) (helpFactor P nd)

/-- the block of the other options, header included -/
def optionsBlock (ext : Ext) (P : Prog) (nd : Node) : Str :=
  ext.hdrOptions ++ b ":\n" ++ (normalOpts P nd).flatMap fun o => helpString (P.opt o) (helpFactor P nd)

/-- the option list is the arguments block (when `showArgs` says so) and the two option blocks, each present when it has
an entry -/
theorem helpOptionList_eq (ext : Ext) (P : Prog) (nd : Node) :
    helpOptionList ext P nd =
      (if showArgs nd.synArgs then
        ext.hdrArguments ++ b ":\n" ++ nd.synArgs.flatMap (fun a => argString a (helpFactor P nd)) else []) ++
      (if (requiredOpts P nd).isEmpty then [] else requiredBlock ext P nd) ++
      (if (normalOpts P nd).isEmpty then [] else optionsBlock ext P nd) := rfl

theorem requiredBlock_in_list (ext : Ext) (P : Prog) (nd : Node) (h : requiredOpts P nd ≠ []) :
    requiredBlock ext P nd <:+: helpOptionList ext P nd := by
  rw [helpOptionList_eq, if_neg (c := (requiredOpts P nd).isEmpty = true) (mt List.isEmpty_iff.mp h)]
  exact List.infix_append _ _ _

theorem optionsBlock_in_list (ext : Ext) (P : Prog) (nd : Node) (h : normalOpts P nd ≠ []) :
    optionsBlock ext P nd <:+: helpOptionList ext P nd := by
  rw [helpOptionList_eq, if_neg (c := (normalOpts P nd).isEmpty = true) (mt List.isEmpty_iff.mp h)]
  exact (List.suffix_append _ _).isInfix

theorem entry_in_requiredBlock (ext : Ext) (P : Prog) (nd : Node) (o : Nat) (h : o ∈ requiredOpts P nd) :
    helpString (P.opt o) (helpFactor P nd) <:+: requiredBlock ext P nd := by
  unfold requiredBlock
  exact List.infix_append_of_infix_right (infix_flatMap_of_mem (fun o => helpString (P.opt o) (helpFactor P nd)) _ o h)

theorem entry_in_optionsBlock (ext : Ext) (P : Prog) (nd : Node) (o : Nat) (h : o ∈ normalOpts P nd) :
    helpString (P.opt o) (helpFactor P nd) <:+: optionsBlock ext P nd := by
  unfold optionsBlock
  exact List.infix_append_of_infix_right (infix_flatMap_of_mem (fun o => helpString (P.opt o) (helpFactor P nd)) _ o h)

theorem section_in_default (ext : Ext) (P : Prog) (n : Nat) (sec : Section) (h : sec ∈ defaultSections) :
    helpSection ext P n sec <:+: helpOutput ext P n [] := by
  unfold helpOutput
  simp only [List.isEmpty_nil, ↓reduceIte]
  exact infix_flatMap_of_mem _ _ sec h

theorem optionList_in_default (ext : Ext) (P : Prog) (n : Nat) :
    helpOptionList ext P (P.node n) <:+: helpOutput ext P n [] :=
  section_in_default ext P n .optionList (by simp [defaultSections])

/-- line filling never loses an item: what was there stays, the new item is there -/
theorem synAdd_keeps (nameLen : Nat) (acc : Str × Str) (syn x : Str) (h : x <:+: acc.1 ++ acc.2) :
    x <:+: (synAdd nameLen acc syn).1 ++ (synAdd nameLen acc syn).2 := by
  unfold synAdd
  split
  · simp only [List.append_assoc]
    rw [← List.append_assoc acc.1 acc.2]
    exact List.infix_append_of_infix_left h
  · simp only
    rw [← List.append_assoc, ← List.append_assoc]
    exact List.infix_append_of_infix_left (List.infix_append_of_infix_left h)

theorem synAdd_has (nameLen : Nat) (acc : Str × Str) (syn : Str) :
    syn <:+: (synAdd nameLen acc syn).1 ++ (synAdd nameLen acc syn).2 := by
  unfold synAdd
  split
  · exact List.infix_append_of_infix_right (List.suffix_append _ _).isInfix
  · exact List.infix_append_of_infix_right (List.suffix_append _ _).isInfix

theorem synFold_keeps (nameLen : Nat) (items : List Str) (acc : Str × Str) (x : Str) (h : x <:+: acc.1 ++ acc.2) :
    x <:+: (items.foldl (synAdd nameLen) acc).1 ++ (items.foldl (synAdd nameLen) acc).2 := by
  induction items generalizing acc with
  | nil => exact h
  | cons y ys ih => exact ih _ (synAdd_keeps nameLen acc y x h)

theorem synFold_has (nameLen : Nat) (items : List Str) (acc : Str × Str) (x : Str) (h : x ∈ items) :
    x <:+: (items.foldl (synAdd nameLen) acc).1 ++ (items.foldl (synAdd nameLen) acc).2 := by
  induction items generalizing acc with
  | nil => cases h
  | cons y ys ih =>
    simp only [List.foldl_cons]
    rcases List.mem_cons.mp h with e | e
    · subst e; exact synFold_keeps nameLen ys _ _ (synAdd_has nameLen acc x)
    · exact ih _ e

theorem synopsis_item_in_text (ext : Ext) (P : Prog) (n : Nat) (o : Nat)
    (h : o ∈ requiredOpts P (P.node n) ++ normalOpts P (P.node n)) :
    optSynopsis (P.opt o) <:+: helpSynopsis ext P n := by
  unfold helpSynopsis
  simp only
  have hm : optSynopsis (P.opt o) ∈
      ((requiredOpts P (P.node n) ++ normalOpts P (P.node n)).map fun o => optSynopsis (P.opt o)) :=
    List.mem_map.mpr ⟨o, h, rfl⟩
  have h1 := synFold_has (indent4 (scriptName P n)).length _ ([], indent4 (scriptName P n)) _ hm
  have h2 := synAdd_keeps (indent4 (scriptName P n)).length _
    ((if (helpCommands (P.node n)).isEmpty then [] else b "<command> ") ++
      (if (P.node n).synArgs.isEmpty then b "[<args>]" else joinWith [chSp] ((P.node n).synArgs.map (·.1)))) _ h1
  rw [List.append_assoc, List.append_assoc]
  exact List.infix_append_of_infix_right (by rw [← List.append_assoc]; exact List.infix_append_of_infix_left h2)

theorem synopsis_in_default (ext : Ext) (P : Prog) (n : Nat) :
    helpSynopsis ext P n <:+: helpOutput ext P n [] := by
  have := section_in_default ext P n .synopsis (by simp [defaultSections])
  simp only [helpSection] at this
  exact ((List.prefix_append _ _).isInfix).trans this

/-- the line of one sub-command in the COMMANDS section -/
def commandLine (P : Prog) (nd : Node) (name : Str) : Str :=
  let cs := helpCommands nd
  let factor := maxLen (sortStrs (cs.map (·.1)))
  let desc : Str := match cs.find? fun kv => kv.1 == name with
    | some kv => (P.node kv.2).description
    | none => []
  indent4 (padTo true name factor ++ b "    " ++
    replaceNl desc (b "\n    " ++ indent4 (padTo true [] factor)) ++ b "\n")

/-- the COMMANDS section is the header and one `commandLine` per registered name, in sorted order -/
theorem helpCommandList_eq (ext : Ext) (P : Prog) (nd : Node) :
    helpCommandList ext P nd =
      if (helpCommands nd).isEmpty then []
      else ext.hdrCommands ++ b ":\n" ++ (sortStrs ((helpCommands nd).map (·.1))).flatMap (commandLine P nd) := rfl

theorem commandLine_in_list (ext : Ext) (P : Prog) (nd : Node) (name : Str)
    (h : name ∈ sortStrs ((helpCommands nd).map (·.1))) :
    commandLine P nd name <:+: helpCommandList ext P nd := by
  rw [helpCommandList_eq]
  split
  · rename_i he
    rw [List.isEmpty_iff.mp he] at h
    cases h
  · exact List.infix_append_of_infix_right (infix_flatMap_of_mem _ _ name h)

/-- a section that is dropped when empty contains its text either way -/
theorem infix_dropEmpty (c x : Str) : c <:+: (if c.isEmpty then [] else c ++ x) := by
  split
  · rename_i he; rw [List.isEmpty_iff.mp he]; exact List.infix_refl _
  · exact (List.prefix_append _ _).isInfix

end GoModel
