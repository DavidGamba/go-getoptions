import Lemmas.Frame
/-!
# `--` against every parser state

`step s "--"` is computed for *every* state `s` whose end-of-input processing succeeds (nothing that
is open or still pending lacks a mandatory argument): it is the end-of-input state of `s`, switched
to `stopped` — or, when interpretation had already stopped there, with `--` itself appended to the
remaining list.  The only other thing `--` can be is the mandatory value of the occurrence before it,
which is exactly when end-of-input processing of `s` fails with `missingArg`.
-/
namespace GoModel

variable (ext : Ext) (mode : Mode)

/-- outside completion mode the parser never reaches `done` -/
theorem run_not_done (P : Prog) (args : List Str) : (run ext mode P args).ctx ≠ .done :=
  (foldl_moves' ext mode args (initState P)).not_done (by simp [initState])

/-! ## end-of-input processing ends `idle` or `stopped` -/

theorem procPair_ctx_cases (s : PState) (p : Pair) (h : s.ctx = .idle) :
    (procPair ext s p).ctx = .idle ∨ (procPair ext s p).ctx = .stopped ∨
      ∃ o i, (procPair ext s p).ctx = .collecting o i := by
  have hsp := procPair_spec ext s p
  generalize procPair ext s p = r at hsp ⊢
  cases hsp with
  | roStop => exact .inr (.inl rfl)
  | saved =>
    dsimp only
    split
    · exact .inr (.inr ⟨_, _, rfl⟩)
    · exact .inl h
  | unknownKept | unknown | saveErr | ambiguous => exact .inl h

theorem finishDrain_ctx (ps : List Pair) (s : PState) (h : s.ctx = .idle)
    (he : (finishDrain ext s ps).err = none) :
    (finishDrain ext s ps).ctx = .idle ∨ (finishDrain ext s ps).ctx = .stopped := by
  induction ps generalizing s with
  | nil => simp [finishDrain, h]
  | cons p ps ih =>
    rw [finishDrain_cons] at he ⊢
    revert he
    refine byCtx_ind (Q := fun r => r.err = none → r.ctx = .idle ∨ r.ctx = .stopped)
      (fun herr he => absurd he herr) (fun _ hc he => ih _ hc he) (fun o i _ _ => ?_)
      (fun _ hc _ => .inr hc) (fun _ hc _ => ?_)
    · split
      · intro he; cases he
      · exact ih _ rfl
    · have := procPair_ctx_cases ext { s with pending := ps } p h
      rw [hc] at this
      rcases this with h | h | ⟨_, _, h⟩ <;> cases h

theorem finish_ctx (s : PState) (hnd : s.ctx ≠ .done) (he : (finish ext s).err = none) :
    (finish ext s).ctx = .idle ∨ (finish ext s).ctx = .stopped := by
  rw [finish_eq] at he ⊢
  revert he
  refine byCtx_ind (Q := fun r => r.err = none → r.ctx = .idle ∨ r.ctx = .stopped)
    (fun herr he => absurd he herr) (fun _ hc _ => .inl hc) (fun o i _ _ => ?_) (fun _ hc _ => .inr hc)
    (fun _ hc => absurd hc hnd)
  split
  · intro he; cases he
  · exact finishDrain_ctx ext _ _ rfl

/-! ## `--` arriving in any state -/

/-- what `--` turns the end-of-input state into -/
def closeWith (f : PState) : PState :=
  if f.ctx = .idle then { f with ctx := .stopped } else f.addText dashdash

theorem feed_dashdash (ps : List Pair) (s : PState) (hc : s.ctx = .idle)
    (hf : (finishDrain ext s ps).err = none) :
    feedPending ext mode none dashdash s ps = closeWith (finishDrain ext s ps) := by
  induction ps generalizing s with
  | nil => simp [feedPending, finishDrain, head, closeWith, hc]
  | cons p ps ih =>
    have hcc := procPair_ctx_cases ext { s with pending := ps } p hc
    -- both sides dispatch on the state after the first pair
    rw [finishDrain_cons] at hf ⊢
    rw [feedPending_cons]
    revert hf
    refine byCtx_rel (Q := fun a b => b.err = none → a = closeWith b) rfl rfl (fun he hf => by simp [hf] at he)
      (fun hc1 => ih _ hc1) (fun o i hc1 => ?_) (fun hc1 _ => by simp [closeWith, hc1, PState.addText])
      (fun hc1 => by rw [hc1] at hcc; simp at hcc)
    split
    · intro h; cases h
    · rw [offer_optional_refuses ext mode _ o i dashdash ‹_› (.inr rfl)]; exact ih _ rfl

/-- **`--` in any state.**  Whenever end-of-input processing of `s` succeeds, the token `--` does
exactly that processing and stops (or is itself returned when interpretation had stopped before). -/
theorem step_dashdash (s : PState) (he : s.err = none) (hnd : s.ctx ≠ .done)
    (hf : (finish ext s).err = none) :
    step ext mode s dashdash = closeWith (finish ext s) := by
  unfold step
  rw [finish_eq] at hf ⊢
  rw [stepG_eq]
  revert hf
  refine byCtx_rel (Q := fun a b => b.err = none → a = closeWith b) rfl rfl (fun h => by simp [he] at h)
    (fun hc _ => by simp [head, closeWith, hc]) (fun o i _ => ?_) (fun hc _ => by simp [closeWith, hc])
    (fun hc => absurd hc hnd)
  split
  · intro h; cases h
  · rw [offer_optional_refuses ext mode s o i dashdash ‹_› (.inr rfl)]; exact feed_dashdash ext mode _ _ rfl

/-- the converse case: an occurrence that still lacks a mandatory argument takes `--` as that value
(or fails on it) - it is consumed, never a terminator -/
theorem dashdash_taken_as_value (s : PState) (o i : Nat) (h : (i : Int) < (s.P.opt o).min) :
    (offer ext mode s o i dashdash).2 = true :=
  offer_mandatory_consumes ext mode s o i dashdash h

end GoModel
