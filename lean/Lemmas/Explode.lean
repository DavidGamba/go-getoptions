import Model.Basic
/-! `explode` (strings.Split(s, "")): its pieces partition the string, are non-empty, and each piece
explodes to itself — for every byte string, valid UTF-8 or not. -/
namespace GoModel

/-- the first sequence of a non-empty string is at least one byte wide and lies within the string: the width
`w` is only returned where the string has `w` bytes -/
theorem utf8Width_bounds (s : Str) (h : s ≠ []) : 0 < utf8Width s ∧ utf8Width s ≤ s.length := by
  fun_cases utf8Width s
  · exact absurd rfl h
  all_goals simp [*]

theorem utf8Width_pos_ne (s : Str) (h : s ≠ []) : 0 < utf8Width s := (utf8Width_bounds s h).1

theorem utf8Width_le (s : Str) : utf8Width s ≤ s.length := by
  cases s with
  | nil => exact Nat.le_refl 0
  | cons c r => exact (utf8Width_bounds _ (List.cons_ne_nil c r)).2

/-- the width only depends on the bytes it covers -/
theorem utf8Width_take (s : Str) : utf8Width (s.take (utf8Width s)) = utf8Width s := by
  fun_cases utf8Width s <;> simp [utf8Width, *]

theorem explodeF_flatten (n : Nat) (s : Str) (h : s.length ≤ n) : (explodeF n s).flatten = s := by
  fun_induction explodeF n s with
  | case1 s => exact (List.eq_nil_of_length_eq_zero (Nat.le_zero.mp h)).symm
  | case2 => rfl
  | case3 n c r w ih =>
    have hp : 0 < w := utf8Width_pos_ne (c :: r) (List.cons_ne_nil c r)
    rw [List.flatten_cons, ih (by rw [List.length_drop]; simp only [List.length_cons] at h ⊢; omega)]
    exact List.take_append_drop _ _

theorem explode_flatten (s : Str) : (explode s).flatten = s := explodeF_flatten _ s (Nat.le_refl _)

theorem explodeF_piece (n : Nat) (s l : Str) (h : l ∈ explodeF n s) :
    l ≠ [] ∧ utf8Width l = l.length := by
  fun_induction explodeF n s with
  | case1 => cases h
  | case2 => cases h
  | case3 n c r w ih =>
    rcases List.mem_cons.mp h with e | h
    · have hb := utf8Width_bounds (c :: r) (List.cons_ne_nil c r)
      have hl : ((c :: r).take w).length = w := by rw [List.length_take]; exact Nat.min_eq_left hb.2
      rw [e, utf8Width_take, hl]
      exact ⟨List.ne_nil_of_length_pos (by rw [hl]; exact hb.1), rfl⟩
    · exact ih h

theorem explode_piece (s l : Str) (h : l ∈ explode s) : l ≠ [] ∧ utf8Width l = l.length :=
  explodeF_piece _ s l h

theorem explode_single (l : Str) (hne : l ≠ []) (hw : utf8Width l = l.length) : explode l = [l] := by
  obtain ⟨c, r, rfl⟩ := List.exists_cons_of_ne_nil hne
  unfold explode
  simp only [List.length_cons, explodeF]
  rw [hw, List.take_length, List.drop_length]
  cases r.length <;> simp [explodeF]

/-- every piece of a bundle is a single letter: exploding it again gives the piece itself -/
theorem explode_idem (s l : Str) (h : l ∈ explode s) : explode l = [l] :=
  explode_single l (explode_piece s l h).1 (explode_piece s l h).2

theorem explode_ne_nil (s : Str) (h : s ≠ []) : explode s ≠ [] := by
  obtain ⟨c, r, rfl⟩ := List.exists_cons_of_ne_nil h
  exact List.cons_ne_nil _ _

theorem explode_mem_sub (s l : Str) (h : l ∈ explode s) : ∀ c ∈ l, c ∈ s := by
  intro c hc
  rw [← explode_flatten s]
  exact List.mem_flatten.mpr ⟨l, h, hc⟩

end GoModel
