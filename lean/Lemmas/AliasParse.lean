import Lemmas.OptStart
import Lemmas.AliasErase
/-!
# An alias in the middle of a command line behaves like the name, up to `CalledAs`
-/
namespace GoModel

variable (ext : Ext) (mode : Mode)

/-- what `Parse` lets the program observe, up to the spelling recorded by `CalledAs` and quoted in messages -/
structure AObs (a c : PState) : Prop where
  nodes : a.P.nodes = c.P.nodes
  opts : ∀ o, (a.P.opt o).noAlias = (c.P.opt o).noAlias
  cur : a.cur = c.cur
  rem : a.rem = c.rem
  unk : a.unk = c.unk
  err : a.err.map PErr.noAlias = c.err.map PErr.noAlias

theorem AObs.of {a m c : PState} (h1 : AEq a m) (h2 : ObsEq m c) : AObs a c :=
  ⟨by rw [h1.nodes, h2.P], fun o => by rw [h1.opt o, h2.P], h1.cur.trans h2.cur, h1.rem.trans h2.rem,
   h1.unk.trans h2.unk, by rw [h1.err, h2.err]⟩

theorem AObs.values {a c : PState} (h : AObs a c) (o : Nat) :
    (a.P.opt o).value = (c.P.opt o).value ∧ (a.P.opt o).called = (c.P.opt o).called ∧ a.err.isSome = c.err.isSome := by
  have e := Opt.eq_of_noAlias (h.opts o)
  exact ⟨by rw [e], by rw [e], by simpa using congrArg Option.isSome h.err⟩

/-- two keys of the level that lead to the same option: the occurrences differ in the alias recorded and quoted -/
theorem procPair_alias_aeq (s : PState) (k1 k2 : Str) (args : List Str) (oid : Nat)
    (h1 : lookup k1 (s.P.node s.cur).opts = some oid) (h2 : lookup k2 (s.P.node s.cur).opts = some oid) :
    AEq (procPair ext s ⟨k1, args⟩) (procPair ext s ⟨k2, args⟩) := by
  have r1 := resolve_exact (s.P.node s.cur) k1 oid h1
  have r2 := resolve_exact (s.P.node s.cur) k2 oid h2
  have hrel := save_rel ext (s.P.node 0).mapKeysToLower (matched s oid k1) k2 args
  rw [show ({ matched s oid k1 with usedAlias := k2 } : Opt) = matched s oid k2 from rfl] at hrel
  cases hs1 : save ext (s.P.node 0).mapKeysToLower (matched s oid k1) args <;>
    cases hs2 : save ext (s.P.node 0).mapKeysToLower (matched s oid k2) args <;>
    rw [hs1, hs2] at hrel <;> simp only [SaveRel] at hrel
  · rw [(ProcPair.saveErr (p := ⟨k1, args⟩) k1 oid _ r1 h1 hs1).eq, (ProcPair.saveErr (p := ⟨k2, args⟩) k2 oid _ r2 h2 hs2).eq]
    exact { AEq.refl s with opts := map_set_rel _ _ _ _ _ rfl rfl, err := by simp [hrel] }
  · rw [(ProcPair.saved (p := ⟨k1, args⟩) k1 oid _ r1 h1 hs1).eq, (ProcPair.saved (p := ⟨k2, args⟩) k2 oid _ r2 h2 hs2).eq,
      (Opt.reads_of_noAlias hrel).2.1]
    exact { AEq.refl s with opts := map_set_rel _ _ _ _ _ rfl hrel, ctx := rfl }

/-- at a head position: the states after the two spellings are related through the state in which the second
spelling is processed with the token bookkeeping of the first -/
theorem alias_step_idle (s : PState) (t1 t2 k1 k2 : Str) (args : List Str) (oid : Nat)
    (he : s.err = none) (hc : s.ctx = .idle)
    (ht1 : isOption t1 mode = ([⟨k1, args⟩], true)) (ht2 : isOption t2 mode = ([⟨k2, args⟩], true))
    (h1 : lookup k1 (s.P.node s.cur).opts = some oid) (h2 : lookup k2 (s.P.node s.cur).opts = some oid) :
    ∃ m, AEq (step ext mode s t1) m ∧ Sim m (step ext mode s t2) := by
  rw [step_head_option ext mode s t1 _ he hc ht1,
      step_head_option ext mode s t2 _ he hc ht2]
  refine ⟨drain ext (headState s t1) [⟨k2, args⟩], ?_, ?_⟩
  · rw [drain_single, drain_single]
    exact procPair_alias_aeq ext { headState s t1 with pending := [] } k1 k2 args oid h1 h2
  · exact drain_single_sim ext s t1 t2 _ ⟨k2, resolve_exact _ k2 oid h2⟩

/-- wherever an option may start -/
theorem alias_step (s : PState) (t1 t2 k1 k2 : Str) (args : List Str) (oid : Nat) (hs : OptStart s)
    (ht1 : isOption t1 mode = ([⟨k1, args⟩], true)) (ht2 : isOption t2 mode = ([⟨k2, args⟩], true))
    (h1 : lookup k1 (s.P.node s.cur).opts = some oid) (h2 : lookup k2 (s.P.node s.cur).opts = some oid) :
    ∃ m, AEq (step ext mode s t1) m ∧ Sim m (step ext mode s t2) :=
  step_at_optstart ext mode (Q := fun a c => ∃ m, AEq a m ∧ Sim m c) (fun x => ⟨x, .refl x, .refl x⟩) s t1 t2 hs
    (looks_of_isOption mode t1 _ ht1) (looks_of_isOption mode t2 _ ht2) fun s0 hP hc he hi =>
      alias_step_idle ext mode s0 t1 t2 k1 k2 args oid he hi ht1 ht2 (by rw [hP, hc]; exact h1) (by rw [hP, hc]; exact h2)

end GoModel
