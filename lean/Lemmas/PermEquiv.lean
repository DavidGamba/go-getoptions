import Lemmas.NodeSim
import Lemmas.CompPerm
/-! The parse does not depend on the iteration order of the option and command tables: permuting
the tables of every node (keys distinct) changes nothing but the tables themselves. -/
namespace GoModel

variable (ext : Ext) (mode : Mode)

theorem NodePerm.sim {n n' : Node} (h : NodePerm n n') : NodeSim False n n' :=
  ⟨fun k => resolve_perm n n' k h.opts h.ndO, fun k => (lookup_perm _ _ k h.opts h.ndO).symm,
   fun k => (lookup_perm _ _ k h.cmds h.ndC).symm, (congrArg Node.umode h.rest).symm,
   (congrArg Node.mapKeysToLower h.rest).symm, .inl (congrArg Node.requireOrder h.rest).symm⟩

theorem nperm_stepRel (N' : List Node) : StepRel ext none (OverNodes NodePerm N') False :=
  overNodes_stepRel ext NodePerm.sim N' none fun _ e => nomatch e

theorem procPair_wn (s : PState) (p : Pair) (N' : List Node) (h : NPerm s.P N') :
    procPair ext (s.wn N') p = (procPair ext s p).wn N' :=
  (overNodes_procPair ext NodePerm.sim N' p ⟨rfl, h⟩).rel.1

theorem step_wn (s : PState) (t : Str) (N' : List Node) (h : NPerm s.P N') :
    step ext mode (s.wn N') t = (step ext mode s t).wn N' ∧ NPerm (step ext mode s t).P N' :=
  ((nperm_stepRel ext N').stepG mode t ⟨rfl, h⟩).rel

theorem finish_wn (s : PState) (N' : List Node) (h : NPerm s.P N') :
    finish ext (s.wn N') = (finish ext s).wn N' :=
  ((nperm_stepRel ext N').finish (.inr ⟨rfl, h⟩)).rel.1

/-- the whole parse over the permuted node list, together with the fact that the nodes are still permutations of
each other afterwards -/
theorem parseArgs_overNodes (P : Prog) (N' : List Node) (args : List Str) (h : NPerm P N') :
    OverNodes NodePerm N' (parseArgs ext mode P args) (parseArgs ext mode { P with nodes := N' } args) :=
  ((nperm_stepRel ext N').parseArgs mode ⟨rfl, h⟩ args).rel

/-- **Whole parse**: over a program whose node tables are iterated in another order, the parse
produces the same state (option values, called flags, selected command, remaining arguments,
unknown-option log, error) — only the carried tables differ, as given. -/
theorem parseArgs_wn (P : Prog) (N' : List Node) (args : List Str) (h : NPerm P N') :
    parseArgs ext mode { P with nodes := N' } args = (parseArgs ext mode P args).wn N' :=
  (parseArgs_overNodes ext mode P N' args h).1

def AllKeysNoEq (P : Prog) : Prop := ∀ i, KeysNoEq (P.node i)

theorem completeArgs_wn (target : Str) (P : Prog) (N' : List Node) (words : List Str) (h : NPerm P N')
    (hk : AllKeysNoEq P) :
    completeArgs ext mode target { P with nodes := N' } words = (completeArgs ext mode target P words).wn N' := by
  have H := overNodes_stepRel ext (Q := fun n n' => NodePerm n n' ∧ KeysNoEq n) (fun q => q.1.sim) N'
  exact (StepRel.completeArgs (H none fun _ e => nomatch e)
    (H (some target) fun tg _ P n n' text w q => (completionsAt_perm ext tg P n n' text w q.1 q.2).symm) mode
    (P := P) (P' := { P with nodes := N' }) ⟨rfl, fun i => ⟨h i, hk i⟩⟩ words).rel.1

end GoModel
