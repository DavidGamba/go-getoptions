import Lemmas.SchedRel
import Lemmas.Anc
/-! Every event preserves `SInv` (`sinv_step`): the clauses about one vertex through `VOk` and one case per event
(`VStep.vok`), the clauses relating vertices from what an event can do to the ghost fields (`VStep.marked`, `.real`,
`.out`, …) and what happened to any vertex `y` (`Step.get_cases`: it moved, it was marked as an ancestor, or nothing). -/
namespace GoModel.Dag

section
variable {c : Cfg} {s s' : Sched} {ev : Event} {v : Nat} {x : VState}

/-- only a real task that is in progress has a goroutine -/
theorem VOk.fl_none (h : VOk x) (hn : x.real = false ∨ x.st ≠ .inProgress) : x.fl = .none :=
  Decidable.byContradiction fun hf => hn.elim (fun hr => by simp [(h.f hf).1] at hr) fun hs => hs (h.f hf).2

/-- `ErrorSkipParents` is never a pseudo completion: it comes from a real task in progress -/
theorem VOk.skip_sender (h : VOk x) (hr : Res.skipParents ∈ x.pseudo ∨ x.fl = .sending .skipParents) :
    x.real = true ∧ x.st = .inProgress := by
  have hfl := hr.resolve_left fun hm => by rcases h.pk _ hm with e | e <;> cases e
  exact h.f (by simp [hfl])

/-- a goroutine step: the flight changes between two values other than `none` -/
theorem VOk.flight (h : VOk x) (hf : x.fl ≠ .none) {fl : Flight} (hf' : fl ≠ .none) (b : Bool) :
    VOk { x with fl := fl, sem := b } :=
  ⟨h.a1, h.a4, h.d, h.e, (fun hp => nomatch (h.f hf).2.symm.trans hp), (fun _ => h.f hf), h.ps, h.po, h.pk, h.rs,
    h.sk, (fun _ => .inl hf')⟩

theorem VOk.recv (h : VOk x) (r : Res) (hr : r ∈ x.pseudo ∨ x.fl = .sending r) : VOk (x.recv r) := by
  obtain ⟨a1, a4, d, e, n, f, ps, po, pk, rs, sk, ip⟩ := h
  by_cases hs : x.fl = .sending r
  · -- the result of the real task: no pseudo completion is outstanding, the vertex is not marked
    obtain ⟨hre, hst⟩ := f (by simp [hs])
    have hp : x.pseudo = [] := Decidable.byContradiction fun hp => by simp [ps hp] at hre
    have hm : x.marked = false := Bool.eq_false_iff.mpr fun hm => by simp [a4 hm] at hre
    constructor <;> simp [VState.recv, hs, hre, hp, hm]
  · -- a pseudo completion: the vertex was not launched as a real task
    have hm := hr.resolve_right hs
    have hnr := ps (List.ne_nil_of_mem hm)
    have hfl : x.fl = .none := Decidable.byContradiction fun hf => by simp [f hf] at hnr
    constructor <;> simp [VState.recv, hfl, hnr]
    · intro e; subst e; exact po hm
    · exact fun h => po (List.mem_of_mem_erase h)
    · exact fun r h => pk r (List.mem_of_mem_erase h)
    · rintro rfl; rcases pk _ hm with e | e <;> cases e

theorem VOk.mark (h : VOk x) (hr : x.real = false) : VOk (markOne x) := by
  have hf := h.fl_none (.inl hr)
  constructor <;> simp [markOne, hr, hf]
  · exact h.pk
  · exact fun ho => by simp [h.sk ho] at hr

theorem VStep.vok (h : VStep c s v ev x) (ho : VOk (s.get v)) : VOk x := by
  cases h with
  | semAcq hf _ => exact ho.flight (by simp [hf]) (by simp) _
  | lockAcq hf => exact ho.flight (by simp [hf]) (by simp) _
  | enter _ hf _ => exact ho.flight (by simp [hf]) (by simp) _
  | leaveSend _ _ hf _ _ => exact ho.flight (by simp [hf]) (by simp) _
  | leaveRetry _ _ hf _ _ => exact ho.flight (by simp [hf]) (by simp) _
  | semRel => exact ⟨ho.a1, ho.a4, ho.d, ho.e, ho.n, ho.f, ho.ps, ho.po, ho.pk, ho.rs, ho.sk, ho.ip⟩
  | recv r _ hr => exact ho.recv r hr
  | pickReal _ _ _ hp _ =>
    obtain ⟨_, ho', _, hps⟩ := ho.n hp
    have hm : (s.get v).marked = false := Bool.eq_false_iff.mpr fun hm => (ho.a4 hm).1 hp
    constructor <;> simp [ho', hps, hm]
  | pickSkip _ _ _ hp =>
    have hm := ho.a1 hp
    have hr := (ho.a4 hm).2
    have hf := ho.fl_none (.inl hr)
    constructor <;> simp [hr, hf, hm]
    · exact ho.pk
    · exact fun h => by simp [ho.sk h] at hr
  | pickErr _ _ _ hp _ =>
    obtain ⟨hr, ho', hf, hps⟩ := ho.n hp
    constructor <;> simp [hr, ho', hf, hps]

theorem VStep.marked (h : VStep c s v ev x) : x.marked = (s.get v).marked := by cases h <;> simp

theorem VStep.real (h : VStep c s v ev x) (hx : x.real = true) : (s.get v).real = true ∨ ev = .pickReal v := by
  cases h with
  | pickReal => exact .inr rfl
  | recv r => exact .inl (by rwa [VState.recv_real] at hx)
  | _ => exact .inl hx

theorem VStep.out (h : VStep c s v ev x) : x.out = (s.get v).out ∨ ∃ r, ev = .recv v r ∧ x.out = some r := by
  cases h with
  | recv r => exact .inr ⟨r, rfl, VState.recv_out ..⟩
  | _ => exact .inl rfl

/-- the result of a real task that has been received is final -/
theorem VStep.done_stable (h : VStep c s v ev x) (ho : VOk (s.get v)) (hd : (s.get v).st = .done)
    (hr : (s.get v).real = true) : x.st = .done ∧ x.out = (s.get v).out ∧ x.real = true := by
  have hf := ho.fl_none (.inr (by simp [hd]))
  have hp : (s.get v).pseudo = [] := Decidable.byContradiction fun hp => by simp [ho.ps hp] at hr
  cases h <;> simp_all

/-- nothing that counts as a failure happens while the report stays empty -/
theorem VStep.quiet (h : VStep c s v ev x) (he : s.errs = []) (hn : entryOf ev = none)
    (ho : (s.get v).out ≠ some .err ∧ (s.get v).out ≠ some .taskSkipped ∧ Res.taskSkipped ∉ (s.get v).pseudo) :
    x.out ≠ some .err ∧ x.out ≠ some .taskSkipped ∧ Res.taskSkipped ∉ x.pseudo := by
  cases h with
  | recv r =>
    rw [VState.recv_out]
    refine ⟨?_, ?_, fun hm => ho.2.2 (VState.mem_recv_pseudo hm)⟩ <;> (rintro ⟨rfl⟩; cases hn)
  | pickErr _ _ _ _ hne => exact absurd he hne
  | pickSkip => simpa using ho
  | _ => exact ho

/-- Every vertex is marked (then it belongs to no real task, and the event proper did not touch it), or stays as it
was, or makes its own move. -/
theorem Step.get_cases (hc : AncOK c) (h : SInv c s) (hst : Step c s ev s') (y : Nat) :
    (y ∈ marks c ev ∧ (s.get y).real = false ∧ s'.get y = markOne (s.get y)) ∨
    (y ∉ marks c ev ∧ (s'.get y = s.get y ∨ VStep c s y ev (s'.get y))) := by
  by_cases hy : y ∈ marks c ev
  · refine .inl ⟨hy, ?_⟩
    cases hst with
    | vertex hv hn => rw [hv.marks_nil hn] at hy; cases hy
    | cancel | idle | exit => cases hy
    | @skip v x hv =>
      -- the sender is in progress, so none of its ancestors was launched
      cases hv with
      | recv _ _ hr =>
      obtain ⟨hre, hip⟩ := (h.vok v).skip_sender hr
      have hnr : (s.get y).real = false := Bool.eq_false_iff.mpr fun hry => by
        have := (h.real_path hry (path_of_mem_ancestors hc.sym _ v y hy)).1; rw [hip] at this; cases this
      have hne : y ≠ v := by rintro rfl; rw [hre] at hnr; cases hnr
      exact ⟨hnr, by rw [markAncestors_get, if_pos (show y ∈ anc c v from hy), get_set_ne _ _ _ _ hne]⟩
  · obtain ⟨x, hx, e⟩ := hst.get_eq y
    rw [if_neg hy] at e; rw [e]; exact .inr ⟨hy, hx⟩

theorem Step.real_ok_final (hc : AncOK c) (h : SInv c s) (hst : Step c s ev s') (y : Nat)
    (old : (s.get y).st = .done ∧ (s.get y).out = some .ok ∧ (s.get y).real = true) :
    (s'.get y).st = .done ∧ (s'.get y).out = some .ok ∧ (s'.get y).real = true := by
  rcases hst.get_cases hc h y with ⟨_, hr, _⟩ | ⟨_, e | hv⟩
  · rw [old.2.2] at hr; cases hr
  · rw [e]; exact old
  · have := hv.done_stable (h.vok y) old.1 old.2.2
    exact ⟨this.1, this.2.1.trans old.2.1, this.2.2⟩

end

/-- **Every event of `Run` preserves the invariant.** -/
theorem sinv_step (c : Cfg) (hc : AncOK c) (s s' : Sched) (ev : Event) (h : SInv c s)
    (hs : step? c s ev = some s') : SInv c s' := by
  have hst := step?_step hs
  have get := hst.get_cases hc h
  have vok : ∀ y, VOk (s'.get y) := by
    intro y
    rcases get y with ⟨_, hr, e⟩ | ⟨_, e | hv⟩
    · rw [e]; exact (h.vok y).mark hr
    · rw [e]; exact h.vok y
    · exact hv.vok (h.vok y)
  have marked : ∀ y, (s'.get y).marked = true ↔ (s.get y).marked = true ∨ y ∈ marks c ev := by
    intro y
    rcases get y with ⟨hy, _, e⟩ | ⟨hy, e | hv⟩
    · simp [e, markOne, hy]
    · simp [e, hy]
    · simp [hv.marked, hy]
  refine ⟨fun y => (vok y).a1, ?a2, ?a3, fun y => (vok y).a4, ?b, ?ce, fun y => (vok y).d, fun y => (vok y).e,
    fun y => (vok y).n, fun y => (vok y).f, fun y => (vok y).ps, fun y => (vok y).po, fun y => (vok y).pk,
    fun y => (vok y).rs, fun y => (vok y).sk, fun y => (vok y).ip⟩
  case a2 =>
    intro ch p hpar hm
    rw [marked] at hm ⊢
    exact hm.imp (h.a2 ch p hpar) (marks_closed hc · hpar)
  case a3 =>
    intro ch p hpar
    rw [marked]
    refine hst.lift ch (P := fun x => x.out = some .skipParents → _) (fun ho => .inl (h.a3 ch p hpar ho))
      (fun x hv ho => ?_) fun _ hx => hx
    rcases hv.out with e | ⟨r, rfl, e⟩
    · exact .inl (h.a3 ch p hpar (e ▸ ho))
    · rw [e] at ho; cases ho
      exact .inr (hc.direct ch p hpar)
  case b =>
    -- the dependencies were finished when `y` was launched, and a finished real result stays
    intro y hry ch hch
    apply hst.real_ok_final hc h
    rcases get y with ⟨_, hr, e⟩ | ⟨_, e | hv⟩
    · simp [e, markOne, hr] at hry
    · exact h.b y (e ▸ hry) ch hch
    · rcases hv.real hry with hr | rfl
      · exact h.b y hr ch hch
      · generalize s'.get y = x at hv
        cases hv with
        | pickReal _ _ hr hp he => exact real_launch_deps_ok c hc s h y hr hp he ch hch
  case ce =>
    intro he' y
    rw [hst.errs, List.append_eq_nil_iff] at he'
    have hn : entryOf ev = none := by cases hh : entryOf ev <;> simp [hh] at he' ⊢
    have old := h.ce he'.1 y
    exact hst.lift y old (fun _ hv => hv.quiet he'.1 hn old) fun _ hx => hx

end GoModel.Dag
