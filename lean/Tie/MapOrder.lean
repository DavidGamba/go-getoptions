import Generated.Facts
/-! Tie (C20): every `range` over a Go map in the modelled packages either feeds a sort before its
result is used, or ranges over one of the tables whose iteration order the model proves unobservable
(listed here with the reason). -/
namespace Tie

/-- map-typed tables whose iteration order cannot be observed, per package (the reason is a theorem of
`Props/C20.lean` or a sort downstream); a `range` over anything else must be followed by a sort -/
def orderInsensitive : List (String × String) := [
  (".", "ChildOptions"),          -- abbreviation candidates: sorted by the caller / resolve_order_independent;
                                  -- completion candidates: sorted (completion_order_independent);
                                  -- copyOptionsFromParent writes distinct keys; checkRequired sorts;
                                  -- help: help_text_order_independent
  (".", "ChildCommands"),         -- command lookup by exact key; completion candidates sorted; tree walks visit
                                  -- every child; help: help_text_order_independent, topic lookup by unique name
  ("dag", "Vertices")             -- scheduling choice / any topological order (C13-C16 quantify over it)
]

def mapOrderOk : Bool :=
  Generated.mapRanges.all fun r => r.2.2.2.1 || orderInsensitive.contains (r.1, r.2.2.1)

example : mapOrderOk = true := by decide +kernel

/-- the loops that must stay sorted (removing the sort call is caught here on every run) -/
example : (Generated.mapRanges.filter fun r => r.2.1 == "checkRequired").all (·.2.2.2.1) = true := by decide +kernel
example : (Generated.mapRanges.filter fun r => r.2.1 == "CommandList").all (·.2.2.2.1) = true := by decide +kernel

/-- no clock, no random source, no unsafe in the modelled packages -/
def forbiddenImports : List String := ["time", "math/rand", "unsafe", "crypto/rand"]
example : ((Generated.importsRoot ++ Generated.importsOption ++
    Generated.importsHelp).all fun i => !forbiddenImports.contains i) = true := by decide +kernel

end Tie
