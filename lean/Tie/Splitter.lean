import Generated.Facts
/-! Tie: the regular expressions the model re-implements as total functions. -/
namespace Tie
example : Generated.isOptionRegex = "(?s)^(--?)([^=]+)(.*?)$" := by decide +kernel
example : Generated.compLineSplitRegex = "\\s+" := by decide
end Tie
