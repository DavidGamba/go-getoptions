import Generated.Facts
import Model.Prog
/-! Tie: the option-kind table of `option.New` and the iota orders, as read from the current source,
are the ones the model uses. -/
namespace Tie
open GoModel

def goName : Kind → String
  | .bool => "BoolType" | .incr => "IncrementType" | .str => "StringType" | .int => "IntType"
  | .flt => "Float64Type" | .strOpt => "StringOptionalType" | .intOpt => "IntOptionalType"
  | .fltOpt => "Float64OptionalType" | .strs => "StringRepeatType" | .ints => "IntRepeatType"
  | .flts => "Float64RepeatType" | .map => "StringMapType"

def allKinds : List Kind := [.bool, .incr, .str, .int, .flt, .strOpt, .intOpt, .fltOpt, .strs, .ints, .flts, .map]

/-- every kind is declared in the source with the model's row for it -/
def kindTableAgrees : Bool :=
  Generated.kindTable.length == allKinds.length &&
  allKinds.all fun k => Generated.kindTable.any fun r =>
    r.1 == goName k && b r.2.1 == k.table.1 && r.2.2.1 == k.table.2.1 && r.2.2.2.1 == k.table.2.2 &&
    r.2.2.2.2 == k.isOptional

example : kindTableAgrees = true := by decide +kernel

/-- the order of `option.Type` constants is the order of the harness' kind numbering -/
example : Generated.optionTypeOrder = allKinds.map goName := by decide +kernel

/-- an optional-argument kind never has a mandatory argument (the model drops the `IsOptional`
tests of the minimum loop on this ground) -/
example : (Generated.kindTable.all fun r => !r.2.2.2.2 || r.2.2.1 == 0) = true := by decide

example : Generated.modeOrder = ["Normal", "Bundling", "SingleDash"] := by decide +kernel
example : Generated.unknownModeOrder = ["Fail", "Warn", "Pass"] := by decide

end Tie
