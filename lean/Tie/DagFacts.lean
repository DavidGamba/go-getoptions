import Generated.Facts
import Model.Basic
/-! Tie (C13-C16): structural facts of `dag.Run` the scheduler model relies on. -/
namespace Tie
/-- completions are handed over on an unbuffered channel (a `recv` happens after the matching send): every channel
made in the package whose element type is not `struct{}` has no capacity -/
example : Generated.doneChanCap = "0" := by decide
/-- the semaphore (the channels of `struct{}`) has `maxParallel` slots -/
example : Generated.semaphoreCap = "g.maxParallel" := by decide
/-- the scheduler status is written only by the scheduler goroutine — no write sits in a goroutine body (a function
literal under `go`, or a function a `go` statement calls) — and exactly these statuses are written -/
example : Generated.statusWrites = ["scheduler: runDone", "scheduler: runInProgress", "scheduler: runSkip"] := by decide +kernel
/-- some goroutine of the package (the task goroutine) acquires a semaphore slot first and releases it in a
deferred call (written in place, or through functions whose first statement is the send resp. the receive) -/
example : (Generated.goroutineHeads.any fun h =>
    GoModel.hasPrefix (GoModel.b h) (GoModel.b "send semaphore; defer recv semaphore")) = true := by decide +kernel
/-- the task goroutine holds the Task's mutex from before its first attempt until it returns
(`x.Lock(); defer x.Unlock()` ahead of the attempt loop): the ground of `holdsLock` in `Lemmas/SharedTask.lean` -/
example : Generated.taskLockBeforeAttempts = true := by decide
example : Generated.runStatusOrder = ["runPending", "runInProgress", "runSkip", "runDone"] := by decide +kernel
end Tie
