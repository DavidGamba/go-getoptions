import Generated.Facts
/-! Tie: which option kinds each type switch handles. -/
namespace Tie
/-- greedy lookahead (wherever the switch lives in api.go): the multi-value kinds are told apart —
no clause merges two kinds — and the three kinds with a format test each have a clause -/
example : (Generated.greedySwitch.all fun c => c.length ≤ 1) = true := by decide
example : (["IntRepeatType", "Float64RepeatType", "StringMapType"].all fun k => Generated.greedySwitch.flatten.contains k) = true := by decide +kernel
/-- min/max validation applies to exactly the multi-value kinds -/
example : Generated.addChildOptionSwitch =
  [["StringRepeatType", "IntRepeatType", "Float64RepeatType", "StringMapType"]] := by decide +kernel
/-- the synopsis switch covers all twelve kinds, multi-value kinds in the second clause -/
example : Generated.synopsisSwitch =
  [["BoolType", "IncrementType", "StringType", "IntType", "Float64Type", "StringOptionalType",
    "IntOptionalType", "Float64OptionalType"],
   ["StringRepeatType", "IntRepeatType", "Float64RepeatType", "StringMapType"]] := by decide +kernel
end Tie
