import Lemmas.ParseUser
import Lemmas.Demo
import Lemmas.BuildInv
import Lemmas.DefFrame
/-!
# C11 — required options are enforced before any command runs; help bypasses them
-/
namespace GoModel

variable (ext : Ext)

/-- is some required option of the node's table not called -/
def missingRequired (P : Prog) (n : Nat) : Bool :=
  (P.node n).opts.any fun kv => (P.opt kv.2).required && !(P.opt kv.2).called

/-- `checkRequired` reports an error exactly when some required option reachable through the
node's table (own or inherited) has not been called — for keys with distinct names (a Go map). -/
theorem checkRequired_none_iff (P : Prog) (n : Nat) (hnd : ((P.node n).opts.map (·.1)).Nodup) :
    checkRequired P n = none ↔ missingRequired P n = false := by
  unfold checkRequired missingRequired
  simp only
  rw [List.findSome?_eq_none_iff]
  constructor
  · intro h
    rw [List.any_eq_false]
    intro kv hkv
    have hk : kv.1 ∈ sortStrs ((P.node n).opts.map (·.1)) := by
      rw [mem_sortStrs]; exact List.mem_map.mpr ⟨kv, hkv, rfl⟩
    have := h kv.1 hk
    have hl : lookup kv.1 (P.node n).opts = some kv.2 := lookup_of_mem_nodup (P.node n).opts kv.1 kv.2 hnd hkv
    simp only [hl] at this
    split at this
    · simp at this
    · rename_i hc; simpa using hc
  · intro h x hx
    rw [List.any_eq_false] at h
    cases hl : lookup x (P.node n).opts with
    | none => rfl
    | some oid =>
      have := h (x, oid) (lookup_mem _ _ _ hl)
      simp only at this
      simp [this]

/-- **Required blocks.** A missing required option of the selected node stops `Dispatch` before any
function runs (unless help was requested). -/
theorem required_blocks (s : PState) (rem : List Str) (e : UErr)
    (hh : helpRequested s.P s.cur = false) (hr : checkRequired s.P s.cur = some e) :
    dispatch ext s rem = .missingRequired e := by
  unfold dispatch
  simp [hh, hr]

/-- at the root the same check already fails `Parse` -/
theorem required_blocks_parse (P : Prog) (args : List Str) (e : UErr)
    (he : (parseArgs ext (P.node 0).mode P args).err = none)
    (hreq : requiredAtParse (parseArgs ext (P.node 0).mode P args) = some e) :
    (parseUser ext P args).err = some e ∧ (parseUser ext P args).remaining = none := by
  unfold parseUser
  simp [he, hreq]

/-- the error names a required option that was not called and carries the custom message if one
was declared -/
theorem checkRequired_names (P : Prog) (n : Nat) (e : UErr) (h : checkRequired P n = some e) :
    ∃ key oid, lookup key (P.node n).opts = some oid ∧ (P.opt oid).required = true ∧ (P.opt oid).called = false ∧
      e = .missingRequired (P.opt oid).name (if (P.opt oid).requiredMsg.isEmpty then none else some (P.opt oid).requiredMsg) := by
  unfold checkRequired at h
  simp only at h
  obtain ⟨key, _, hk⟩ := List.exists_of_findSome?_eq_some h
  cases hl : lookup key (P.node n).opts with
  | none => simp [hl] at hk
  | some oid =>
    simp only [hl] at hk
    split at hk
    · rename_i hc
      simp only [Option.some.injEq] at hk
      simp only [Bool.and_eq_true, Bool.not_eq_eq_eq_not, Bool.not_true] at hc
      exact ⟨key, oid, hl, hc.1, hc.2, hk.symm⟩
    · simp at hk

/-- **Help bypasses.** When the help option was called (by name, alias or abbreviation — whatever
key resolved to it), `Dispatch` writes the help of the selected level and returns "help called": no
function runs and missing required options are not reported. -/
theorem help_bypasses (s : PState) (rem : List Str) (hh : helpRequested s.P s.cur = true) :
    dispatch ext s rem = .helpCalled (helpOutput ext s.P s.cur []) := by
  unfold dispatch
  simp [hh]

theorem help_bypasses_parse (s : PState) (hh : helpRequested s.P s.cur = true) : requiredAtParse s = none := by
  simp [requiredAtParse, hh]

/-- the help command: help of the parent level, of the sibling registered under the given name, or the
"no help topic" error -/
theorem help_command (s : PState) (rem : List Str)
    (hh : helpRequested s.P s.cur = false) (hr : checkRequired s.P s.cur = none)
    (hcmd : (s.P.node s.cur).isHelp = true) :
    dispatch ext s rem =
      match rem with
      | [] => .helpCalled (helpOutput ext s.P ((s.P.node s.cur).parent.getD 0) [])
      | a :: _ =>
        match lookup a (s.P.node ((s.P.node s.cur).parent.getD 0)).cmds with
        | some c => .helpCalled (helpOutput ext s.P c [])
        | none => .noHelpTopic a := by
  unfold dispatch
  simp only [hh, hr, hcmd, Bool.false_eq_true, ↓reduceIte]
  rfl

/-! Non-vacuity -/
example :
    let P := Demo.prog.modOpt 4 fun o => { o with required := true, requiredMsg := b "need 100% %s" }
    (parseUser Demo.ext P [b "-v"]).err = some (.missingRequired (b "num") (some (b "need 100% %s"))) ∧
    (parseUser Demo.ext P [b "-v", b "--help"]).err = none ∧
    dispatch Demo.ext (parseUser Demo.ext P [b "cmd"]).st [] =
      .missingRequired (.missingRequired (b "num") (some (b "need 100% %s"))) ∧
    (match dispatch Demo.ext (parseUser Demo.ext P [b "cmd", b "--he"]).st [] with
      | .helpCalled _ => true | _ => false) = true := by
  decide +kernel

/-! ## end to end: definition script, command line, `Parse` / `Dispatch` -/

theorem parseArgs_node (mode : Mode) (P : Prog) (args : List Str) (n : Nat) :
    (parseArgs ext mode P args).P.node n = P.node n :=
  (rest_moves' ext mode args (initState P)).shape.node n

/-- **A required option that is not supplied blocks every command, end to end.**  Program: any accepted
definition script in which the option is declared with `Required(msg)`; command line: anything that parses, does
not mention the option (by name, alias or abbreviation, at any level), does not ask for help, and ends at a
level whose table holds the option (the level it was declared at, or a command that inherited it).  Then
`Dispatch` invokes no function: it returns a missing-required error (`checkRequired_names`: naming a required
option that was not supplied, with its custom message) — and when the final level is the root, `Parse` itself
already returns that error and no remaining list. -/
theorem required_enforced_end_to_end (env : Env) (root : Str) (pre post : List DefOp) (hd : Nat) (kind : Kind)
    (name : Str) (dflt : Val) (dstr : Str) (min max : Int) (msg : Option Str) (st : BState)
    (h : buildB ext env root (pre ++ [.opt hd kind name dflt dstr min max [.required msg]] ++ post) = .ok st) :
    ∃ mid, buildB ext env root pre = .ok mid ∧
      ∀ (args : List Str) (key : Str),
        let s := parseArgs ext (st.P.node 0).mode st.P args
        s.err = none →
        lookup key (st.P.node s.cur).opts = some mid.P.opts.length →
        ¬ Mentioned (st.P.node 0).mode st.P args mid.P.opts.length →
        helpRequested s.P s.cur = false →
        (∀ rem, ∃ e, dispatch ext s rem = .missingRequired e) ∧
        ((s.P.node s.cur).parent = none →
          ∃ e, (parseUser ext st.P args).err = some e ∧ (parseUser ext st.P args).remaining = none ∧
            checkRequired s.P s.cur = some e) := by
  obtain ⟨mid, h1, h2⟩ :=
    defined_record_after_parse ext env (st.P.node 0).mode root pre post hd kind name dflt dstr min max [.required msg] st h
  refine ⟨mid, h1, ?_⟩
  intro args key s he hl hnm hh
  have hrec : s.P.opt mid.P.opts.length = (freshOpt kind name dflt dstr min max |> fun o =>
      { o with required := true, requiredMsg := msg.getD [] }) := h2 args hnm
  have hnode : s.P.node s.cur = st.P.node s.cur := parseArgs_node ext _ st.P args s.cur
  have hinv := buildB_inv ext env root _ st h
  have hnd : ((s.P.node s.cur).opts.map (·.1)).Nodup := by rw [hnode]; exact hinv.prog.keys s.cur
  have hmiss : missingRequired s.P s.cur = true := by
    unfold missingRequired
    rw [List.any_eq_true]
    refine ⟨(key, mid.P.opts.length), ?_, ?_⟩
    · rw [hnode]; exact lookup_mem _ _ _ hl
    · simp only [hrec]; simp [freshOpt]
  have hcr : ∃ e, checkRequired s.P s.cur = some e := by
    cases hc : checkRequired s.P s.cur with
    | some e => exact ⟨e, rfl⟩
    | none =>
      have := (checkRequired_none_iff s.P s.cur hnd).mp hc
      rw [hmiss] at this; cases this
  obtain ⟨e, hce⟩ := hcr
  refine ⟨fun rem => ⟨e, required_blocks ext s rem e hh hce⟩, fun hroot => ?_⟩
  have hreq : requiredAtParse s = some e := by
    unfold requiredAtParse
    simp [hroot, hh, hce]
  have := required_blocks_parse ext st.P args e he hreq
  exact ⟨e, this.1, this.2, hce⟩

end GoModel
