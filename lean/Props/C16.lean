import Lemmas.DagApi
import Lemmas.Termination
/-!
# C16 — Run rejects cycles up front; DepthFirstSort is a children-first order of every vertex;
the graph built by any call history is well formed

Liveness is here as well: work conservation, no deadlock, and termination up to idle polls.
-/
namespace GoModel.Dag

/-- **Build invariant**, for every history of `AddTask` / `TaskDependsOn` / `TaskRetries` calls —
re-adding known tasks, duplicate edges, self edges, bad tasks included: ids are distinct, every child
and every parent of a vertex is a registered vertex, and child / parent lists mirror each other. -/
theorem build_well_formed (ops : List GOp) : GInv (buildGraph ops) := buildGraph_inv ops

/-- `DepthFirstSort` never fails for lack of fuel: on a graph built through the API the only error
is a cycle (whatever order the map iteration visits the vertices in) -/
theorem dfs_no_fuel (ops : List GOp) (order : List Nat) (ho : ∀ v ∈ order, v ∈ (buildGraph ops).ids) :
    dfsFrom (buildGraph ops) order ≠ .error .fuel :=
  dfsFrom_no_fuel _ (buildGraph_inv ops) order ho

/-- **Soundness of the sort**: a successful `DepthFirstSort` lists every vertex, lists nothing twice,
and lists every dependency before its dependents — for every iteration order of the vertex map. -/
theorem dfs_sound (g : GState) (order l : List Nat) (h : dfsFrom g order = .ok l) :
    l.Nodup ∧ Topo g.children l ∧ ∀ v ∈ order, v ∈ l := dfsFrom_sound g order l h

/-- **Completeness of the cycle check**: when `DepthFirstSort` reports a cycle there is one … -/
theorem dfs_cycle_real (g : GState) (order : List Nat) (w : Nat) (h : dfsFrom g order = .error (.cycle w)) :
    Path g.children w w :=
  visitAll_cycle (dfsFrom_error h) fun _ _ x hx => by simp at hx

/-- … and when it succeeds no vertex lies on a cycle. -/
theorem dfs_ok_acyclic (g : GState) (order l : List Nat) (h : dfsFrom g order = .ok l) :
    ∀ v ∈ order, ¬ Path g.children v v := by
  have ⟨hn, ht, hm⟩ := dfs_sound g order l h
  intro v hv
  exact topo_acyclic ht hn v (hm v hv)

/-- `Run` rejects a well-formed graph without definition errors exactly when it has a dependency cycle -/
theorem runPre_cycle_iff (g : GState) (hg : GInv g) (he : g.errs = []) :
    runPre g = .cycle ↔ ∃ v ∈ g.ids, Path g.children v v := by
  unfold runPre
  simp only [he, List.isEmpty_nil, Bool.not_true, Bool.false_eq_true, ↓reduceIte]
  split
  · rename_i hv
    have : g.ids = [] := by simp [GState.ids, List.isEmpty_iff.mp hv]
    simp [this]
  · cases hd : dfs g with
    | ok l =>
      simp only [reduceCtorEq, false_iff, not_exists, not_and]
      exact dfs_ok_acyclic g _ l hd
    | error e =>
      simp only [true_iff]
      cases e with
      | fuel => exact absurd hd (dfsFrom_no_fuel g hg _ (fun v hv => hv))
      | cycle w =>
        have hp := dfs_cycle_real _ _ w hd
        -- the cycle goes through registered vertices: w has a child, so it is a vertex
        have ⟨c, hc⟩ : ∃ c, c ∈ g.children w := by
          cases hp with
          | edge h => exact ⟨_, h⟩
          | cons h _ => exact ⟨_, h⟩
        exact ⟨w, (has_iff_mem_ids g w).mp (has_of_mem_field (π := Vertex.children) hc), hp⟩

/-- Hence `Run` rejects a graph built through the API **exactly** when it has a dependency cycle
(given an otherwise error-free, non-empty definition), before any task is picked. -/
theorem run_rejects_iff_cycle (ops : List GOp) (he : (buildGraph ops).errs = []) (hne : (buildGraph ops).verts ≠ []) :
    runPre (buildGraph ops) = .cycle ↔ ∃ v ∈ (buildGraph ops).ids, Path (buildGraph ops).children v v :=
  runPre_cycle_iff _ (buildGraph_inv ops) he

/-- what `Run` does before scheduling anything: construction errors first, an empty graph is fine,
then the cycle check -/
theorem run_precedence (g : GState) :
    (g.errs ≠ [] → runPre g = .buildErrors) ∧
    (g.errs = [] → g.verts = [] → runPre g = .empty) := by
  unfold runPre
  exact ⟨fun h => by simp [h], fun h1 h2 => by simp [h1, h2]⟩

/-! ## liveness of the scheduler -/

/-- **Work conservation.**  As long as nothing failed and the loop runs, a pending vertex whose
dependencies are all finished can be launched (in serial mode: as soon as nothing is in progress). -/
theorem work_conserving (c : Cfg) (s : Sched) (v : Nat) (hx : s.exited = false) (hv : c.g.has v = true)
    (hm : mayPick c s = true) (hr : ready c s v = true) (hp : (s.get v).st = .pending) (he : s.errs = []) :
    ∃ s', step? c s (.pickReal v) = some s' := by
  simp [step?, hx, hv, hm, hr, hp, he]

/-- a skip-marked vertex whose dependencies are finished can be pseudo-processed -/
theorem work_conserving_skip (c : Cfg) (s : Sched) (v : Nat) (hx : s.exited = false) (hv : c.g.has v = true)
    (hm : mayPick c s = true) (hr : ready c s v = true) (hp : (s.get v).st = .skip) :
    ∃ s', step? c s (.pickSkip v) = some s' := by
  simp [step?, hx, hv, hm, hr, hp]

/-- the scheduler reports "nothing to launch" only when no vertex is ready (or, in serial mode,
something is in progress) and not everything is done -/
theorem idle_means_nothing_ready (c : Cfg) (s s' : Sched) (hs : step? c s .idle = some s') :
    allDone c s = false ∧ (mayPick c s = false ∨ ∀ v ∈ c.g.ids, ready c s v = false) := by
  cases step?_step hs with
  | idle hd hn => exact ⟨hd, hn⟩
  | vertex hv _ => cases hv

theorem ready_of_topo {c : Cfg} {s : Sched} {l : List Nat} (ht : Topo c.g.children l)
    (hnip : ∀ v ∈ l, (s.get v).st ≠ .inProgress) {x : Nat} (hx : x ∈ l) (hxd : (s.get x).st ≠ .done) :
    ∃ w ∈ l, ready c s w = true := by
  -- the first vertex of the children-first order that is not done
  cases hf : l.find? fun y => (s.get y).st != .done with
  | none => exact absurd (List.find?_eq_none.mp hf x hx) (by simpa using hxd)
  | some w =>
    obtain ⟨hw, l1, l2, hsplit, hbefore⟩ := List.find?_eq_some_iff_append.mp hf
    have hwl : w ∈ l := by rw [hsplit]; simp
    refine ⟨w, hwl, ?_⟩
    simp only [ready, Bool.and_eq_true, Bool.or_eq_true, beq_iff_eq, List.all_eq_true, bne_iff_ne, ne_eq]
    constructor
    · have := hnip w hwl
      cases hst : (s.get w).st <;> simp [hst] at hw this ⊢
    · intro ch hch
      have : (s.get ch).st = .done := by simpa using hbefore ch (ht l1 w l2 hsplit ch hch)
      simp [this]

/-- **No deadlock.**  In a reachable state in which not everything is done and no goroutine is
outstanding (no task running, no completion pending), some vertex is ready and may be picked: the
loop cannot idle forever.  (With "every started task returns" this gives termination: each pick
moves a vertex towards `done`.) -/
theorem no_deadlock (c : Cfg) (hc : Scheduled c) (s : Sched) (hr : Reachable c s) (hnd : allDone c s = false)
    (hquiet : ∀ v ∈ c.g.ids, (s.get v).fl = .none ∧ (s.get v).pseudo = []) :
    mayPick c s = true ∧ ∃ v ∈ c.g.ids, ready c s v = true := by
  have hinv := reachable_sinv c hc.ancOK s hr
  obtain ⟨l, hl⟩ := hc.sorted
  have ⟨_, ht, hall⟩ := dfsFrom_sound c.g c.g.ids l hl
  -- the order contains only registered vertices
  have hsub := dfsFrom_sub c.g hc.ginv _ l (fun _ hv => hv) hl
  -- nothing is in progress
  have hnip : ∀ v ∈ c.g.ids, (s.get v).st ≠ .inProgress := fun v hv hst =>
    (hinv.ip v hst).elim (· (hquiet v hv).1) (· (hquiet v hv).2)
  obtain ⟨x, hx, hxd⟩ : ∃ x ∈ c.g.ids, (s.get x).st ≠ .done := by
    simpa [← Bool.not_eq_true, allDone_iff] using hnd
  obtain ⟨w, hw, hr⟩ := ready_of_topo ht (fun v hv => hnip v (hsub v hv)) (hall x hx) hxd
  exact ⟨mayPick_iff.mpr fun _ => hnip, w, hsub w hw, hr⟩

/-! ## Run returns -/

/-- **Run cannot go on for ever.**  On every graph built through the API that passed the cycle
check, "one scheduler event other than the idle poll" is a well-founded relation on the states that
satisfy the scheduler invariants (which every reachable state does): each pick, completion,
semaphore / lock acquisition, attempt, release, the cancellation and the exit strictly decreases a
lexicographic rank (number of vertices that may still complete as real tasks; remaining work of all
vertices).  A vertex re-marked by a late `ErrorSkipParents` is processed again — that is why the rank
is lexicographic — but only finitely often. -/
theorem run_moves_well_founded (c : Cfg) (hc : Scheduled c) : WellFounded (Moves c) := moves_wf c

/-- … hence there is no infinite execution: no infinite sequence of states each obtained from the
previous one by a non-idle scheduler event.  Together with `no_deadlock` (some event is always
possible until everything is done) and "every started task returns", `Run` returns. -/
theorem no_infinite_run (c : Cfg) (hc : Scheduled c) (f : Nat → Sched)
    (h : ∀ n, Moves c (f (n + 1)) (f n)) : False := by
  have wf := run_moves_well_founded c hc
  have key : ∀ s, ∀ n, f n = s → False :=
    fun s => wf.induction (C := fun s => ∀ n, f n = s → False) s
      (fun s ih n hn => ih (f (n + 1)) (hn ▸ h n) (n + 1) rfl)
  exact key (f 0) 0 rfl

/-- the invariants the relation asks for hold in every reachable state -/
theorem reachable_invariants (c : Cfg) (hc : Scheduled c) (s : Sched) (hr : Reachable c s) :
    SInv c s ∧ TInv c s :=
  ⟨reachable_sinv c hc.ancOK s hr, reachable_tinv c s hr⟩

/-! ## The rest of the construction API: `g.Task(id)`, `TaskMap`, `Validate` -/

/-- A recorded definition error is final: whatever calls follow (`AddTask`, `TaskDependsOn`, `TaskRetries`,
look-ups, `TaskMap` calls), every later `Run` returns the definition errors before anything is scheduled. -/
theorem build_error_is_final (ops more : List GOp) (h : (buildGraph ops).errs ≠ []) :
    runPre (buildGraph (ops ++ more)) = .buildErrors := by
  have hm : ErrsMono (buildGraph ops) (buildGraph (ops ++ more)) := by
    unfold buildGraph; rw [List.foldl_append]; exact foldl_errs_mono more _
  exact (run_precedence _).1 (hm.1.ne_nil h)

/-- `g.Task(id)` for an id that is not in the graph is such an error (the graph is then never run with the
empty task it returned), wherever the call stands — also as an argument of another call. -/
theorem unknown_task_lookup_rejected (ops more : List GOp) (id : Nat) (f : Bool)
    (h : (buildGraph ops).has id = false) :
    runPre (buildGraph (ops ++ [.lookup (some { id := id, hasFn := f, src := .graph })] ++ more)) = .buildErrors := by
  rw [List.append_assoc]
  have h1 : (buildGraph (ops ++ [.lookup (some { id := id, hasFn := f, src := .graph })])).errs ≠ [] := by
    unfold buildGraph at h ⊢
    rw [List.foldl_append]
    simp only [List.foldl_cons, List.foldl_nil, buildStep]
    rw [evalRef_graph_missing _ id f h]
    simp
  have := build_error_is_final (ops ++ [.lookup (some { id := id, hasFn := f, src := .graph })]) more h1
  rw [List.append_assoc] at this
  exact this

/-- `g.Task(id)` for a registered id is the registered task and records nothing. -/
theorem known_task_lookup (g : GState) (id : Nat) (f : Bool) (h : g.has id = true) :
    evalRef g (some { id := id, hasFn := f, src := .graph }) = (g, some { id := id, hasFn := true }) := by
  simp [evalRef, h]

/-- **Look-ups are transparent**: a call whose `*Task` arguments are written `g.Task("a")` builds exactly the
graph the same call with the task objects themselves builds, whenever those ids are registered — the
README's `g.TaskDependsOn(g.Task("a"), g.Task("b"))`. -/
theorem lookup_transparent (g : GState) (t : Option TaskRef) (deps : List (Option TaskRef)) (n : Int)
    (ht : Registered g t) (hd : ∀ d ∈ deps, Registered g d) :
    buildStep g (.dependsOn t deps) = buildStep g (.dependsOn (direct t) (deps.map direct)) ∧
    buildStep g (.addTask t) = buildStep g (.addTask (direct t)) ∧
    buildStep g (.retries t n) = buildStep g (.retries (direct t) n) := by
  refine ⟨?_, ?_, ?_⟩
  · simp only [buildStep]
    rw [evalRef_registered g t ht, evalRef_direct]
    simp only
    rw [evalRefs_registered g deps hd, evalRefs_direct]
  · simp only [buildStep]; rw [evalRef_registered g t ht, evalRef_direct]
  · simp only [buildStep]; rw [evalRef_registered g t ht, evalRef_direct]

/-- `g.Validate(tm)`: the `TaskMap`'s errors when it has any, otherwise the graph's; without a map the graph's. -/
theorem validate_spec (g : GState) :
    validate g false = g.errs ∧ (g.tmErrs ≠ [] → validate g true = g.tmErrs) ∧
    (g.tmErrs = [] → validate g true = g.errs) := by
  refine ⟨by simp [validate], ?_, ?_⟩
  · intro h; cases he : g.tmErrs with
    | nil => exact absurd he h
    | cons x xs => simp [validate, he]
  · intro h; simp [validate, h]

/-- `tm.Get(id)` after `tm.Add(id, fn)` is the task that was added (the latest one), and records nothing;
for an id never added it records `ErrorTaskNotFound` in the map. -/
theorem taskmap_get_added (g : GState) (id : Nat) (f f' : Bool) :
    evalRef (tmAdd g id f) (some { id := id, hasFn := f', src := .tmap }) =
      (tmAdd g id f, some { id := id, hasFn := f }) := by
  simp [evalRef, tmAdd]

/-- adding an id twice, an empty id or a nil function to a `TaskMap` is reported by `Validate(tm)`, whatever
else is added later -/
theorem taskmap_misuse_reported (g : GState) (id : Nat) (f : Bool) (more : List GOp)
    (h : id = 0 ∨ f = false ∨ g.tm.any (·.1 == id) = true) :
    validate (more.foldl buildStep (tmAdd g id f)) true ≠ [] := by
  have h1 : (tmAdd g id f).tmErrs ≠ [] := by
    unfold tmAdd
    rcases h with h | h | h
    · subst h; simp
    · subst h; simp
    · simp [h]
  have hm := (foldl_errs_mono more (tmAdd g id f)).2.ne_nil h1
  rw [(validate_spec _).2.1 hm]
  exact hm

/-! Non-vacuity: a diamond sorts children first; re-adding a task keeps the edges; a 2-cycle and a
self edge are rejected. -/
example : (dfs (buildGraph [.addTask (t 1), .dependsOn (t 2) [t 1], .dependsOn (t 3) [t 1], .dependsOn (t 4) [t 2, t 3],
    .addTask (t 1)])).toOption = some [1, 2, 3, 4] := by decide
example : runPre (buildGraph [.dependsOn (t 1) [t 2], .dependsOn (t 2) [t 1]]) = .cycle := by decide
example : runPre (buildGraph [.dependsOn (t 1) [t 1]]) = .cycle := by decide
example : runPre (buildGraph [.dependsOn (t 1) [t 2], .addTask none]) = .buildErrors := by decide
example : (buildGraph [.addTask (t 1), .dependsOn (t 2) [t 1], .addTask (t 1)]).children 2 = [1] := by decide

def gt (i : Nat) : Option TaskRef := some { id := i, src := .graph }
def mt (i : Nat) : Option TaskRef := some { id := i, src := .tmap }
-- README idiom: tasks added, edges by look-up; a look-up of an unknown id fails the definition
example : (dfs (buildGraph [.addTask (t 1), .addTask (t 2), .dependsOn (gt 2) [gt 1]])).toOption = some [1, 2] := by decide
example : runPre (buildGraph [.addTask (t 1), .dependsOn (gt 1) [gt 7]]) = .buildErrors := by decide
example : (buildGraph [.addTask (t 1), .dependsOn (gt 1) [gt 7]]).errs = [.taskNotFound 7, .taskFn 7] := by decide
-- TaskMap: get what was added; a missing id and a duplicate are reported by Validate(tm) only
example : (dfs (buildGraph [.tmAdd 1 true, .tmAdd 2 true, .dependsOn (mt 2) [mt 1]])).toOption = some [1, 2] := by decide
example : validate (buildGraph [.tmAdd 1 true, .tmAdd 1 true, .addTask (mt 1)]) true = [.taskDuplicate 1] := by decide
example : validate (buildGraph [.tmAdd 1 true, .addTask (mt 3)]) true = [.taskNotFound 3] := by decide
example : validate (buildGraph [.tmAdd 1 true, .addTask (mt 3)]) false = [.taskFn 3] := by decide

end GoModel.Dag
