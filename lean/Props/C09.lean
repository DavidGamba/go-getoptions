import Lemmas.RoEquiv
import Lemmas.Demo
import Lemmas.Obs
import Lemmas.Tree
import Lemmas.Collect
/-!
# C09 — require-order stops at the first non-option and hands the rest over verbatim
-/
namespace GoModel

variable (ext : Ext) (mode : Mode)

/-- With require-order, a head token that is neither option-looking nor a sub-command name stops the
parser: the token itself is kept and the parser enters the stopped state. -/
theorem ro_stop_text (s : PState) (t : Str) (he : s.err = none) (hc : s.ctx = .idle)
    (hd : t ≠ dashdash) (hno : (isOption t mode).2 = false)
    (hcmd : lookup t (s.P.node s.cur).cmds = none) (hro : (s.P.node s.cur).requireOrder = true) :
    step ext mode s t = { s with rem := s.rem ++ [t], ctx := .stopped } := by
  rw [step_word ext mode s t he hc hd hno, hcmd, hro]; rfl

/-- With require-order, the first unknown option stops the parser as well: the whole token is kept
verbatim (once), nothing is recorded as unknown, and the remaining letters of a bundle are dropped. -/
theorem ro_stop_unknown (s : PState) (p : Pair)
    (hr : resolve (s.P.node s.cur) p.opt = []) (hro : (s.P.node s.cur).requireOrder = true) :
    procPair ext s p = { s with rem := s.rem ++ [s.tok], ctx := .stopped, pending := [] } := by
  rw [procPair_unknown_ro ext s p hr hro]; rfl

/-- After the stop point every token — known option names, `--`, command names — is returned
verbatim and in order, and no option is set or marked called, no command selected, no unknown option
recorded. -/
theorem ro_tail_verbatim (s : PState) (t : Str) (tail : List Str) (he : s.err = none) (hc : s.ctx = .idle)
    (hd : t ≠ dashdash) (hno : (isOption t mode).2 = false)
    (hcmd : lookup t (s.P.node s.cur).cmds = none) (hro : (s.P.node s.cur).requireOrder = true) :
    let r := finish ext ((t :: tail).foldl (step ext mode) s)
    r.P = s.P ∧ r.cur = s.cur ∧ r.unk = s.unk ∧ r.err = none ∧ r.rem = s.rem ++ t :: tail := by
  simp only [List.foldl]
  rw [ro_stop_text ext mode s t he hc hd hno hcmd hro]
  have := after_stop ext mode { s with rem := s.rem ++ [t], ctx := .stopped } tail (by simpa using he) rfl
  simpa using this

/-- a sub-command name at a head position is still followed under require-order (the stop happens
at the first token that is neither a known option, nor a value, nor a sub-command name) -/
theorem ro_command_descends (s : PState) (t : Str) (c : Nat) (he : s.err = none) (hc : s.ctx = .idle)
    (hd : t ≠ dashdash) (hno : (isOption t mode).2 = false)
    (hcmd : lookup t (s.P.node s.cur).cmds = some c) :
    step ext mode s t = { s with cur := c, textStart := s.rem.length } := by
  rw [step_word ext mode s t he hc hd hno, hcmd]

/-- With require-order, an option token whose first pair names no declared option stops the parser:
the whole token is kept verbatim (once), nothing is recorded as unknown, no later letter of the token
is interpreted. -/
theorem ro_stop_unknown_token (s : PState) (t : Str) (p : Pair) (ps : List Pair)
    (he : s.err = none) (hc : s.ctx = .idle) (hopt : isOption t mode = (p :: ps, true))
    (hr : resolve (s.P.node s.cur) p.opt = []) (hro : (s.P.node s.cur).requireOrder = true) :
    step ext mode s t =
      { s with rem := s.rem ++ [t], ctx := .stopped, pending := [], tok := t, lastTok := t, passed := false } := by
  rw [step_head_option ext mode s t _ he hc hopt, drain_cons,
    procPair_unknown_ro ext { headState s t with pending := ps } p hr hro, byCtx_stopped rfl,
    if_neg (by show ¬ s.err.isSome = true; rw [he]; exact Bool.false_ne_true)]
  rfl

/-- **Everything before the stop point is parsed exactly as without require-order**: as long as the
parser has not stopped after the tokens `pre`, its state is the state of the same program with every
require-order flag cleared (`cl` only clears the flags in the carried program). -/
theorem ro_prefix_as_without (P : Prog) (pre : List Str) (h : (run ext mode P pre).ctx ≠ .stopped) :
    run ext mode P.clearRO pre = (run ext mode P pre).cl :=
  run_cl ext mode P pre h

/-- The token `t` stops the parser after `pre`: the step on `t` is observably "append `t`, stop" (`hst`, `h1`: this
is assumed, and shown by the callers for their kind of stop token).  Then the finished parse has the options,
selected command and unknown-option log of the parse of `pre` without require-order, and the remaining list is what
`pre` left there, then `t`, then `tail` verbatim. -/
theorem ro_parse_stop (P : Prog) (pre tail : List Str) (t : Str) (s1 : PState)
    (he : (run ext mode P pre).err = none) (hns : (run ext mode P pre).ctx ≠ .stopped)
    (hst : step ext mode (run ext mode P pre) t = s1)
    (h1 : ObsEq s1 { run ext mode P pre with rem := (run ext mode P pre).rem ++ [t], ctx := .stopped }) :
    let r := parseArgs ext mode P (pre ++ t :: tail)
    let w := run ext mode P.clearRO pre
    r.P.clearRO = w.P ∧ r.cur = w.cur ∧ r.unk = w.unk ∧ r.err = none ∧ r.rem = w.rem ++ t :: tail := by
  obtain ⟨a1, a2, a3, a4, a5⟩ := after_stop ext mode s1 tail (h1.err.trans he) h1.ctx
  simp only
  unfold parseArgs
  rw [run_append, run_cl ext mode P pre hns, List.foldl_cons, hst]
  exact ⟨by rw [a1, h1.P]; rfl, a2.trans h1.cur, a3.trans h1.unk, a4, by rw [a5, h1.rem]; simp [PState.cl]⟩

/-- **The property for a positional stop token.**  `pre` leaves the parser at a head position of a
level with require-order; `t` is neither option-looking, nor `--`, nor a sub-command name.  Then the
parse of `pre ++ t :: tail` succeeds with: the options, selected command and unknown-option log of
the parse of `pre` *without* require-order; and `remaining` = what `pre` left there, then `t`, then
`tail` verbatim — whatever `tail` contains. -/
theorem ro_parse_text_stop (P : Prog) (pre tail : List Str) (t : Str)
    (he : (run ext mode P pre).err = none) (hc : (run ext mode P pre).ctx = .idle)
    (hd : t ≠ dashdash) (hno : (isOption t mode).2 = false)
    (hcmd : lookup t ((run ext mode P pre).P.node (run ext mode P pre).cur).cmds = none)
    (hro : ((run ext mode P pre).P.node (run ext mode P pre).cur).requireOrder = true) :
    let r := parseArgs ext mode P (pre ++ t :: tail)
    let w := run ext mode P.clearRO pre
    r.P.clearRO = w.P ∧ r.cur = w.cur ∧ r.unk = w.unk ∧ r.err = none ∧ r.rem = w.rem ++ t :: tail :=
  ro_parse_stop ext mode P pre tail t _ he (by rw [hc]; exact Ctx.noConfusion)
    (ro_stop_text ext mode _ t he hc hd hno hcmd hro) (ObsEq.refl _)

/-- **The property for an unknown-option stop token** (same conclusion). -/
theorem ro_parse_unknown_stop (P : Prog) (pre tail : List Str) (t : Str) (p : Pair) (ps : List Pair)
    (he : (run ext mode P pre).err = none) (hc : (run ext mode P pre).ctx = .idle)
    (hopt : isOption t mode = (p :: ps, true))
    (hr : resolve ((run ext mode P pre).P.node (run ext mode P pre).cur) p.opt = [])
    (hro : ((run ext mode P pre).P.node (run ext mode P pre).cur).requireOrder = true) :
    let r := parseArgs ext mode P (pre ++ t :: tail)
    let w := run ext mode P.clearRO pre
    r.P.clearRO = w.P ∧ r.cur = w.cur ∧ r.unk = w.unk ∧ r.err = none ∧ r.rem = w.rem ++ t :: tail :=
  ro_parse_stop ext mode P pre tail t _ he (by rw [hc]; exact Ctx.noConfusion)
    (ro_stop_unknown_token ext mode _ t p ps he hc hopt hr hro) (.symm (.book ..))

/-- **… and when the stop token reaches the head position only after being refused as a value**: `pre` leaves an
occurrence open that already has its minimum (an optional value, a slice or map below its maximum) and nothing
pending; the unknown-option token `t` looks like an option, so the open occurrence refuses it, and it is then the
require-order stop token exactly as at a head position — same conclusion. -/
theorem ro_parse_unknown_stop_open (P : Prog) (pre tail : List Str) (t : Str) (p : Pair) (ps : List Pair) (o i : Nat)
    (he : (run ext mode P pre).err = none) (hc : (run ext mode P pre).ctx = .collecting o i)
    (hp : (run ext mode P pre).pending = [])
    (hmin : ¬ (i : Int) < ((run ext mode P pre).P.opt o).min)
    (hopt : isOption t mode = (p :: ps, true))
    (hr : resolve ((run ext mode P pre).P.node (run ext mode P pre).cur) p.opt = [])
    (hro : ((run ext mode P pre).P.node (run ext mode P pre).cur).requireOrder = true) :
    let r := parseArgs ext mode P (pre ++ t :: tail)
    let w := run ext mode P.clearRO pre
    r.P.clearRO = w.P ∧ r.cur = w.cur ∧ r.unk = w.unk ∧ r.err = none ∧ r.rem = w.rem ++ t :: tail := by
  have hidle := refused_as_idle ext mode (run ext mode P pre) o i t he hc hp hmin
    (Or.inl (looks_of_isOption mode t _ hopt))
  have hst := ro_stop_unknown_token ext mode { run ext mode P pre with ctx := .idle } t p ps he rfl hopt hr hro
  exact ro_parse_stop ext mode P pre tail t _ he (by rw [hc]; exact Ctx.noConfusion) (hidle.trans hst)
    (.symm (.book ..))

/-- **Inheritance**: a command created under a parent carries the parent's require-order flag (and
unknown-mode), so the stop applies at every level created after `SetRequireOrder`. -/
theorem ro_inherited (env : Env) (st st' : BState) (h : Nat) (name desc : Str) (p : Nat)
    (hp : st.handles[h]? = some p) (hb : buildStep ext env st (.cmd h name desc) = .ok st') :
    st'.handles = st.handles ++ [st.P.nodes.length] ∧
    (st'.P.node st.P.nodes.length).requireOrder = (st.P.node p).requireOrder ∧
    (st'.P.node st.P.nodes.length).umode = (st.P.node p).umode := by
  have := cmd_inherits ext env st st' h name desc p hp hb
  exact ⟨this.1, this.2.1, this.2.2.1⟩

/-! Non-vacuity: require-order on the demo program. -/
example :
    let P := Demo.prog.modNode 0 fun n => { n with requireOrder := true }
    (parseUser Demo.ext P [b "--num", b "1", b "-v", b "stop", b "--name=x", b "--", b "cmd"]).remaining =
      some [b "stop", b "--name=x", b "--", b "cmd"] ∧
    ((parseUser Demo.ext P [b "--num", b "1", b "-v", b "stop", b "--name=x", b "--", b "cmd"]).st.P.opt 0).called = false ∧
    ((parseUser Demo.ext P [b "--num", b "1", b "-v", b "stop", b "--name=x", b "--", b "cmd"]).st.P.opt 1).called = true := by
  decide +kernel

/-- the hypotheses of `ro_parse_text_stop` and `ro_parse_unknown_stop` are met after a prefix that sets
a valued option and a flag -/
example :
    let P := Demo.prog.modNode 0 fun n => { n with requireOrder := true }
    let s := run Demo.ext .normal P [b "--num", b "1", b "-v"]
    s.err = none ∧ s.ctx = .idle ∧ (s.P.node s.cur).requireOrder = true ∧
    lookup (b "stop") (s.P.node s.cur).cmds = none ∧ (isOption (b "stop") .normal).2 = false ∧
    isOption (b "--zzz=1") .normal = ([⟨b "zzz", [b "1"]⟩], true) ∧ resolve (s.P.node s.cur) (b "zzz") = [] := by
  decide +kernel

end GoModel
