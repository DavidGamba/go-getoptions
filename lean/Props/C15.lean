import Lemmas.Rerun
import Lemmas.SharedTask
/-!
# C15 — concurrency never exceeds the configured bound; serial means one at a time

**Partial by nature** (DESIGN.md section 10): in the model a semaphore slot and the task mutex are state
components; that the Go code acquires the slot as the goroutine's first statement, releases it in a
deferred call, and brackets `Fn` with `Lock`/`Unlock` is a regenerated source fact (`Tie/DagFacts.lean`),
and the real-time behaviour is exercised by the controlled runs.
-/
namespace GoModel.Dag

/-- the vertices whose task function is executing -/
def running (c : Cfg) (s : Sched) : List Nat := c.g.ids.filter fun v => match (s.get v).fl with | .running _ => true | _ => false

theorem running_le_holders (c : Cfg) (s : Sched) (h : HInv c s) : (running c s).length ≤ holders c s := by
  unfold running holders
  rw [← List.countP_eq_length_filter, ← List.countP_eq_length_filter]
  apply List.countP_mono_left
  intro a _ ha
  cases hfl : (s.get a).fl with
  | running k => exact h.held a (Or.inr (Or.inr ⟨k, hfl⟩))
  | _ => simp [hfl] at ha

theorem HInv.running_le {c : Cfg} {s : Sched} (h : HInv c s) : (running c s).length ≤ c.maxParallel :=
  Nat.le_trans (running_le_holders c s h) h.bound

/-- **The bound.**  In every reachable state at most `maxParallel` semaphore slots are held, and every
executing task function holds one: never more than `maxParallel` task functions execute at once. -/
theorem concurrency_bound (c : Cfg) (hc : Scheduled c) (s : Sched) (hr : Reachable c s) :
    (running c s).length ≤ c.maxParallel :=
  (reachable_hinv c hc.ginv.nodup s hr).running_le

/-- a slot can only be taken while one is free -/
theorem semAcq_requires_free (c : Cfg) (s s' : Sched) (v : Nat) (hs : step? c s (.semAcq v) = some s') :
    holders c s < c.maxParallel := by
  cases step?_step hs with
  | vertex hv _ => cases hv with
    | semAcq _ hh => exact hh

/-! ## a later `Run` of the same graph -/

theorem hinv_rerun (c : Cfg) (s : Sched) : HInv c (rerun s) := by
  constructor
  · have : (c.g.ids.filter fun v => ((rerun s).get v).sem) = [] := by
      rw [List.filter_eq_nil_iff]; intro a _; simp [rerun, Sched.get]
    simp [holders, this]
  · intro v h; simp [rerun, Sched.get] at h

/-- **The bound holds in every later run, under the limit in force then.**  Whatever the earlier run
left behind (`s` is arbitrary), whatever limit `SetMaxParallel` set in between and whatever tasks were
added (`c` is the configuration of the later run: the semaphore is made anew from `maxParallel` by every
`Run` - the regenerated fact `semaphoreCap`), every state the later run can reach has at most
`c.maxParallel` task functions executing. -/
theorem second_run_concurrency_bound (c : Cfg) (hn : c.g.ids.Nodup) (s s' : Sched) (evs : List Event) (i : Nat)
    (ha : accept c (rerun s) evs i = .ok s') : (running c s').length ≤ c.maxParallel :=
  (accept_induct (hinv_step c hn) evs _ _ i (hinv_rerun c s) ha).running_le

/-! ## serial mode -/

def inProgressList (c : Cfg) (s : Sched) : List Nat := c.g.ids.filter fun v => (s.get v).st == .inProgress

/-- in serial mode a vertex is picked only when nothing is in progress -/
theorem serial_pick_requires_quiet (c : Cfg) (hser : c.serial = true) (s s' : Sched) (v : Nat)
    (hs : step? c s (.pickReal v) = some s' ∨ step? c s (.pickSkip v) = some s' ∨ step? c s (.pickErr v) = some s') :
    inProgressList c s = [] := by
  have hm : mayPick c s = true := by
    rcases hs with h | h | h <;> cases step?_step h with
    | vertex hv _ => cases hv; assumption
  exact List.filter_eq_nil_iff.mpr fun a ha => by simpa using mayPick_iff.mp hm hser a ha

def Serial (c : Cfg) (s : Sched) : Prop :=
  ∀ v w, v ∈ c.g.ids → w ∈ c.g.ids → (s.get v).st = .inProgress → (s.get w).st = .inProgress → v = w

/-- only a pick puts a vertex in progress -/
theorem VStep.inProgress {c : Cfg} {s : Sched} {ev : Event} {v : Nat} {x : VState} (h : VStep c s v ev x)
    (hx : x.st = .inProgress) : (s.get v).st = .inProgress ∨ mayPick c s = true := by
  cases h with
  | pickReal _ hm | pickSkip _ hm | pickErr _ hm => exact .inr hm
  | recv r => rw [VState.recv_st] at hx; cases hx
  | _ => exact .inl hx

theorem VStep.vertex_eq {c : Cfg} {s : Sched} {ev : Event} {v w : Nat} {x y : VState} (h1 : VStep c s v ev x)
    (h2 : VStep c s w ev y) : v = w := by
  cases h1 <;> cases h2 <;> rfl

theorem serial_step (c : Cfg) (hser : c.serial = true) (s s' : Sched) (ev : Event) (h : Serial c s)
    (hs : step? c s ev = some s') : Serial c s' := by
  have old : ∀ y, (s'.get y).st = .inProgress → (s.get y).st = .inProgress ∨
      ((∃ x, VStep c s y ev x) ∧ ∀ a ∈ c.g.ids, (s.get a).st ≠ .inProgress) := by
    intro y hy
    obtain ⟨x, hx, e⟩ := (step?_step hs).get_eq y
    rw [e] at hy
    split at hy
    · cases hy
    · rcases hx with rfl | hv
      · exact .inl hy
      · exact (hv.inProgress hy).imp_right fun hm => ⟨⟨x, hv⟩, mayPick_iff.mp hm hser⟩
  intro v w hv hw h1 h2
  rcases old v h1, old w h2 with ⟨o1 | ⟨⟨_, p1⟩, q1⟩, o2 | ⟨⟨_, p2⟩, q2⟩⟩
  · exact h v w hv hw o1 o2
  · exact absurd o1 (q2 v hv)
  · exact absurd o2 (q1 w hw)
  · exact p1.vertex_eq p2

/-- **Serial means one at a time**: in serial mode never more than one vertex is in progress. -/
theorem serial_one_at_a_time (c : Cfg) (hser : c.serial = true) (s : Sched) (hr : Reachable c s) :
    ∀ v w, v ∈ c.g.ids → w ∈ c.g.ids → (s.get v).st = .inProgress → (s.get w).st = .inProgress → v = w :=
  hr.induct (P := Serial c) (fun v w _ _ h => by simp [initSched, Sched.get] at h) (serial_step c hser)

/-! ## a Task shared by two graphs -/

/-- **A Task shared by two graphs that run concurrently never executes twice at the same time.**  Two copies of the
scheduler LTS (any two graphs, any limits, serial or not) whose only coupling is the Task's mutex — a `lockAcq v` of
one graph needs the other graph's goroutine for `v` not to hold it, which is what `sync.Mutex` provides; the
goroutine holds it from `lockAcq` until its result has been received (`v.Task.Lock(); defer v.Task.Unlock()` before the
first attempt): in every reachable state of the pair the function of `v` is executing in at most one of them, for
every attempt number. -/
theorem shared_task_never_runs_twice (c1 c2 : Cfg) (p : Sched × Sched) (hr : PairReachable c1 c2 p)
    (v k1 k2 : Nat) : ¬ ((p.1.get v).fl = .running k1 ∧ (p.2.get v).fl = .running k2) := by
  intro h
  exact reachable_exclusive c1 c2 p hr v ⟨running_holds p.1 v k1 h.1, running_holds p.2 v k2 h.2⟩

/-- the step that matters: while one graph's goroutine holds the mutex the other graph cannot take it, whatever else
either graph does in the meantime (`step_holds`: only its own `lockAcq` makes a goroutine a holder) -/
theorem lock_acquired_only_by_lockAcq (c : Cfg) (s s' : Sched) (ev : Event) (v : Nat)
    (h : step? c s ev = some s') (hl : holdsLock s' v = true) : holdsLock s v = true ∨ ev = .lockAcq v :=
  step_holds c s s' ev v h hl

/-! Non-vacuity: with `maxParallel = 1` a second independent task cannot take a slot. -/
def twoCfg : Cfg := { g := buildGraph [.addTask (t 1), .addTask (t 2)], maxParallel := 1 }

example : (accept twoCfg initSched [.pickReal 1, .pickReal 2, .semAcq 1, .semAcq 2] 0).toOption.isSome = false := by
  decide
example : (accept twoCfg initSched [.pickReal 1, .pickReal 2, .semAcq 1, .lockAcq 1, .enter 1 0, .leave 1 0 .ok,
    .recv 1 .ok, .semRel 1, .semAcq 2] 0).toOption.isSome = true := by
  decide

-- a goroutine inside its function holds the mutex; before `lockAcq` it does not
example : ((accept twoCfg initSched [.pickReal 1, .semAcq 1, .lockAcq 1, .enter 1 0] 0).toOption.map fun s =>
    (holdsLock s 1, (s.get 1).fl)) = some (true, .running 0) ∧
    ((accept twoCfg initSched [.pickReal 1, .semAcq 1] 0).toOption.map fun s => holdsLock s 1) = some false := by
  decide

end GoModel.Dag
