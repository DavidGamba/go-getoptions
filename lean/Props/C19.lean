import Lemmas.ParseUser
import Lemmas.Demo
import Lemmas.Sort
import Lemmas.OptCand
import Lemmas.Explode
import Model.ReqArg
/-!
# C19 — no input makes the library panic or hang

The model has no `panic` outcome: every function of `lean/Model` is total and structurally recursive
(accepted by Lean's termination checker without `partial`, `unsafe` or well-founded recursion), which
is the model-level form of "returns for every input".  What is proved here are the facts that make
the Go index / slice / nil-dereference sites safe, plus the `nil` remaining list of a failed parse.
-/
namespace GoModel

variable (ext : Ext)

/-- A failed `Parse` returns a nil remaining list together with the error. -/
theorem failed_parse_nil (P : Prog) (args : List Str) (e : UErr) (h : (parseUser ext P args).err = some e) :
    (parseUser ext P args).remaining = none := by
  rcases parseUser_cases ext P args with ⟨_, _, h0⟩ | ⟨h0, _⟩
  · exact h0
  · rw [h0] at h; cases h

/-- … and a successful one returns a list and no error -/
theorem ok_parse_some (P : Prog) (args rem : List Str) (h : (parseUser ext P args).remaining = some rem) :
    (parseUser ext P args).err = none := by
  cases he : (parseUser ext P args).err with
  | none => rfl
  | some e => rw [failed_parse_nil ext P args e he] at h; simp at h

/-! ## slice bounds of the SingleDash / Bundling split (`match[2][:size]`, `match[2][size:]`) -/

theorem utf8Width_pos (c : UInt8) (r : Str) : 0 < utf8Width (c :: r) :=
  utf8Width_pos_ne (c :: r) (List.cons_ne_nil c r)

/-- the regular expression never yields an empty option name (`[^=]+`) -/
theorem splitDashes_name_ne (s : Str) (l : Bool) (name g3 : Str) (h : splitDashes s = some (l, name, g3)) :
    name ≠ [] := by
  have hn : ∀ c r, (c != chEq) = true → nameOf (c :: r) ≠ [] := fun c r hc => by simp [nameOf, List.takeWhile, hc]
  unfold splitDashes at h
  split at h
  · split at h <;> cases h
    · exact hn _ _ ‹_›
    · exact List.cons_ne_nil _ _
  · split at h <;> cases h
    exact hn _ _ ‹_›
  · cases h

/-! ## the `lastOpt` dereference of the completion code -/

/-- while the loop over the option table has not set `lastOpt`, every candidate collected so far is
the lonesome dash -/
theorem optCand_lastNone (target : Str) (P : Prog) (w part : Str) (l : List (Str × Nat))
    (acc : List Str × Option Nat) (h0 : acc.2 = none → ∀ c ∈ acc.1, c = [chDash]) :
    (l.foldl (optCandStep ext target P w part) acc).2 = none →
      ∀ c ∈ (l.foldl (optCandStep ext target P w part) acc).1, c = [chDash] := by
  rw [optCand_fold]
  intro hn c hc
  obtain ⟨ha, hl⟩ := lastHit_none part l acc.2 hn
  rcases List.mem_append.mp hc with hc | hc
  · exact h0 ha c hc
  · obtain ⟨kv, hkv, hc⟩ := List.mem_flatMap.mp hc
    exact candsOfKey_of_not_hit ext target P w part kv (hl kv hkv) c hc

/-- **No nil dereference in completion**: whenever the single-candidate hint is computed (exactly
one candidate and it ends in `=`), `lastOpt` has been set. -/
theorem lastOpt_some (target : Str) (P : Prog) (nd : Node) (w : Str) (c : Str)
    (hone : sortStrs (nd.opts.foldl (optCandStep ext target P w (trimDash (trimDash w))) ([], none)).1 = [c])
    (heq : hasSuffix c [chEq] = true) :
    (nd.opts.foldl (optCandStep ext target P w (trimDash (trimDash w))) ([], none)).2 ≠ none := by
  intro hn
  have h := optCand_lastNone ext target P w (trimDash (trimDash w)) nd.opts ([], none) (by simp) hn
  have hc : c ∈ (nd.opts.foldl (optCandStep ext target P w (trimDash (trimDash w))) ([], none)).1 := by
    rw [← (sortStrs_perm _).mem_iff, hone]; simp
  have := h c hc
  rw [this] at heq
  revert heq; decide

/-! ## `GetRequiredArg*` (`helpers.go`): total, and nothing of the list is lost -/

/-- the three ways a call on a non-empty list can end all hand back the tail, and the element taken is the head:
`args[0]` / `args[1:]` are only evaluated on a non-empty list -/
theorem required_arg_conserves (P : Prog) (n hn idx : Nat) (kind : ReqKind) (args : List Str) (secs : List Section)
    (a : Str) (rest : List Str)
    (h : (getRequiredArg ext P n hn idx kind args secs).2 = .ok a rest ∨
         (getRequiredArg ext P n hn idx kind args secs).2 = .convInt a rest ∨
         (getRequiredArg ext P n hn idx kind args secs).2 = .convFloat a rest) :
    args = a :: rest := by
  cases args with
  | nil => simp [getRequiredArg] at h
  | cons x xs =>
    cases kind <;> simp only [getRequiredArg] at h
    · simpa using h
    · cases hx : atoi x <;> simp [hx] at h <;> simp [h]
    · cases hx : ext.floatOk x <;> simp [hx] at h <;> simp [h]

/-- the "missing argument" outcome is exactly the empty list -/
theorem required_arg_missing_iff (P : Prog) (n hn idx : Nat) (kind : ReqKind) (args : List Str) (secs : List Section) :
    (∃ named help, (getRequiredArg ext P n hn idx kind args secs).2 = .missing named help) ↔ args = [] := by
  cases args with
  | nil => simp [getRequiredArg]
  | cons x xs =>
    cases kind <;> simp only [getRequiredArg]
    · simp
    · cases atoi x <;> simp
    · cases ext.floatOk x <;> simp

/-- the message names the argument declared at the position the object has reached, when one is declared there;
the help printed is the synopsis unless sections are asked for -/
theorem required_arg_missing_names (P : Prog) (n hn idx : Nat) (kind : ReqKind) (secs : List Section)
    (h : idx < (P.node n).synArgs.length) :
    (getRequiredArg ext P n hn idx kind [] secs).2 =
      .missing (some ((P.node n).synArgs[idx]).1)
        (helpOutput ext P hn (if secs.isEmpty then [.synopsis] else secs)) := by
  simp [getRequiredArg, h]

/-- every call advances the object's argument counter by one, whatever the outcome -/
theorem required_arg_counter (P : Prog) (n hn idx : Nat) (kind : ReqKind) (args : List Str) (secs : List Section) :
    (getRequiredArg ext P n hn idx kind args secs).1 = idx + 1 := by
  cases args <;> rfl

/-- an `int` / `float64` success is a text the conversion accepts -/
theorem required_arg_converts (P : Prog) (n hn idx : Nat) (args : List Str) (secs : List Section) (a : Str)
    (rest : List Str) :
    ((getRequiredArg ext P n hn idx .int args secs).2 = .ok a rest → (atoi a).isSome = true) ∧
    ((getRequiredArg ext P n hn idx .float args secs).2 = .ok a rest → ext.floatOk a = true) := by
  cases args with
  | nil => simp [getRequiredArg]
  | cons x xs =>
    constructor
    · simp only [getRequiredArg]
      cases hx : atoi x <;> simp
      intro h _; rw [← h, hx]; rfl
    · simp only [getRequiredArg]
      cases hx : ext.floatOk x <;> simp
      intro h _; rw [← h]; exact hx

example : (getRequiredArg Demo.ext Demo.prog 0 0 0 .int [b "12", b "x"] []).2 = .ok (b "12") [b "x"] ∧
          (getRequiredArg Demo.ext Demo.prog 0 0 0 .int [b "1x"] []).2 = .convInt (b "1x") [] := by decide

/-- `k` calls of `GetRequiredArg`, each on the list the previous one handed back: the values taken, the list left,
the counter reached (`none` as soon as one call finds nothing to take) -/
def takeRequired (P : Prog) (n hn : Nat) : Nat → Nat → List Str → Option (List Str × List Str × Nat)
  | 0, idx, args => some ([], args, idx)
  | k + 1, idx, args =>
    match getRequiredArg ext P n hn idx .str args [] with
    | (idx', .ok v rest) =>
      match takeRequired P n hn k idx' rest with
      | some (vs, r, i) => some (v :: vs, r, i)
      | none => none
    | _ => none

theorem getRequiredArg_str_cons (P : Prog) (n hn idx : Nat) (a : Str) (r : List Str) (secs : List Section) :
    getRequiredArg ext P n hn idx .str (a :: r) secs = (idx + 1, .ok a r) := rfl

/-- **Chained `GetRequiredArg` calls conserve the list**: `k` calls on a list with at least `k` elements return its
first `k` elements, in order, leave exactly the rest, and advance the object's argument counter by `k`; with fewer
elements the `(k)`-th call at the latest reports the missing argument. -/
theorem takeRequired_spec (P : Prog) (n hn : Nat) (k idx : Nat) (args : List Str) :
    takeRequired ext P n hn k idx args =
      if k ≤ args.length then some (args.take k, args.drop k, idx + k) else none := by
  induction k generalizing idx args with
  | zero => rfl
  | succ k ih =>
    cases args with
    | nil => rfl
    | cons a r =>
      simp only [takeRequired, getRequiredArg_str_cons, ih, List.length_cons, Nat.add_le_add_iff_right]
      by_cases hk : k ≤ r.length
      · simp only [hk, ↓reduceIte, List.take_succ_cons, List.drop_succ_cons, Nat.add_assoc, Nat.add_comm 1 k]
      · simp only [hk, ↓reduceIte]

example : takeRequired Demo.ext Demo.prog 0 0 2 0 [b "a", b "b", b "c"] = some ([b "a", b "b"], [b "c"], 2) := by decide

/-! Non-vacuity: a failing parse. -/
example : (parseUser Demo.ext Demo.prog [b "--num", b "x"]).remaining = none ∧
          (parseUser Demo.ext Demo.prog [b "--num", b "x"]).err = some (.parse (.convInt (b "num") (b "x"))) := by decide +kernel

end GoModel
