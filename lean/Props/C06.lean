import Lemmas.AliasParse
import Lemmas.Demo
/-!
# C06 — aliases interchangeable, Called/CalledAs exact, untouched options keep defaults
-/
namespace GoModel

variable (ext : Ext) (mode : Mode)

/-! ## a match marks exactly the matched option -/

/-- A matched occurrence marks the option called and records the key it was given as; the value goes
through `Save`.  (`Called(x)` and `CalledAs(x)` read exactly these two fields.) -/
theorem procPair_sets_called (s : PState) (p : Pair) (key : Str) (oid : Nat) (o' : Opt)
    (hr : resolve (s.P.node s.cur) p.opt = [key]) (hl : lookup key (s.P.node s.cur).opts = some oid)
    (hoid : oid < s.P.opts.length)
    (hs : save ext (s.P.node 0).mapKeysToLower (matched s oid key) p.args = .ok o') :
    (procPair ext s p).P.opt oid = o' := by
  rw [(ProcPair.saved key oid o' hr hl hs).eq]
  exact opt_setOpt_same _ _ _ hoid

/-- `Save` never touches the bookkeeping fields: called flag, used alias, name, kind, bounds, bool default,
required flag. -/
theorem save_keeps (lower : Bool) (o o' : Opt) (args : List Str) (h : save ext lower o args = .ok o') :
    o'.called = o.called ∧ o'.usedAlias = o.usedAlias ∧ o'.name = o.name ∧ o'.kind = o.kind ∧
    o'.min = o.min ∧ o'.max = o.max ∧ o'.boolDefault = o.boolDefault ∧ o'.required = o.required := by
  rw [save_ok ext lower h]; exact ⟨rfl, rfl, rfl, rfl, rfl, rfl, rfl, rfl⟩

theorem procPair_called (s : PState) (p : Pair) (key : Str) (oid : Nat) (o' : Opt)
    (hr : resolve (s.P.node s.cur) p.opt = [key]) (hl : lookup key (s.P.node s.cur).opts = some oid)
    (hoid : oid < s.P.opts.length)
    (hs : save ext (s.P.node 0).mapKeysToLower (matched s oid key) p.args = .ok o') :
    ((procPair ext s p).P.opt oid).called = true ∧ ((procPair ext s p).P.opt oid).usedAlias = key := by
  rw [procPair_sets_called ext s p key oid o' hr hl hoid hs]
  have := save_keeps ext _ _ _ _ hs
  exact ⟨by rw [this.1]; rfl, by rw [this.2.1]; rfl⟩

/-! ## non-interference: nothing else moves -/

/-- Processing one `(option, args)` pair changes at most the option it resolves to. -/
theorem pair_changes_only_its_option (s : PState) (p : Pair) (o2 : Nat)
    (h : ∀ key, resolve (s.P.node s.cur) p.opt = [key] → lookup key (s.P.node s.cur).opts ≠ some o2) :
    (procPair ext s p).P.opt o2 = s.P.opt o2 := by
  have hsp := procPair_spec ext s p
  generalize procPair ext s p = r at hsp ⊢
  cases hsp with
  | saveErr key oid _ hr hl | saved key oid _ hr hl =>
    exact opt_setOpt_ne _ _ _ _ fun heq => h key hr (by rw [hl, heq])
  | roStop | unknownKept | unknown | ambiguous => rfl

/-- A value token changes at most the option that is collecting. -/
theorem value_changes_only_collecting (s : PState) (o i : Nat) (t : Str) (o2 : Nat) (h : o2 ≠ o) :
    (offer ext mode s o i t).1.P.opt o2 = s.P.opt o2 := by
  have hsp := offer_spec ext mode s o i t
  generalize offer ext mode s o i t = r at hsp ⊢
  cases hsp with
  | saved => exact opt_setOpt_ne _ _ _ _ h
  | dashArg | refused | saveErr => rfl

/-- the keys of the current level that lead to option `o2` -/
def keysOf (nd : Node) (o2 : Nat) : List Str := (nd.opts.filter fun kv => kv.2 == o2).map (·.1)

/-- One whole option token (all its pairs): an option none of whose keys is matched by any pair of the
token is left exactly as it was — its value, `Called` and `CalledAs`. -/
theorem drain_frame_opts (ps : List Pair) (s : PState) (o2 : Nat)
    (h : ∀ p ∈ ps, ∀ key, resolve (s.P.node s.cur) p.opt = [key] → lookup key (s.P.node s.cur).opts ≠ some o2) :
    (drain ext s ps).P.opt o2 = s.P.opt o2 := by
  induction ps generalizing s with
  | nil => rfl
  | cons p ps ih =>
    have h1 : (procPair ext { s with pending := ps } p).P.opt o2 = s.P.opt o2 :=
      pair_changes_only_its_option ext { s with pending := ps } p o2 (h p List.mem_cons_self)
    have hcur := procPair_cur_nodes ext { s with pending := ps } p
    rw [drain_cons]
    refine byCtx_ind (Q := fun r => r.P.opt o2 = s.P.opt o2) (fun _ => h1) (fun _ _ => ?_) (fun _ _ _ _ => h1)
      (fun _ _ => h1) (fun _ _ => h1)
    rw [ih _ fun q hq key => by rw [hcur.1, hcur.2]; exact h q (List.mem_cons_of_mem _ hq) key]
    exact h1

/-! ## aliases -/

/-- Two keys of the level that lead to the same option are interchangeable: the state after the
occurrence is the same except for the recorded `UsedAlias` (and the alias quoted in an error). -/
theorem alias_equiv (s : PState) (k1 k2 : Str) (args : List Str) (oid : Nat)
    (h1 : lookup k1 (s.P.node s.cur).opts = some oid) (h2 : lookup k2 (s.P.node s.cur).opts = some oid)
    (o1 o2 : Opt)
    (hs1 : save ext (s.P.node 0).mapKeysToLower (matched s oid k1) args = .ok o1)
    (hs2 : save ext (s.P.node 0).mapKeysToLower (matched s oid k2) args = .ok o2)
    (hval : o1.value = o2.value) :
    let a := procPair ext s ⟨k1, args⟩
    let c := procPair ext s ⟨k2, args⟩
    a.ctx = c.ctx ∧ a.rem = c.rem ∧ a.unk = c.unk ∧ a.err = c.err ∧ a.cur = c.cur ∧
    (∀ o, o ≠ oid → a.P.opt o = c.P.opt o) := by
  have r1 := resolve_exact (s.P.node s.cur) k1 oid h1
  have r2 := resolve_exact (s.P.node s.cur) k2 oid h2
  have m1 := (save_keeps ext _ _ _ _ hs1).2.2.2.2.2.1
  have m2 := (save_keeps ext _ _ _ _ hs2).2.2.2.2.2.1
  have hm : o1.max = o2.max := by rw [m1, m2]; rfl
  simp only
  rw [(ProcPair.saved (p := ⟨k1, args⟩) k1 oid o1 r1 h1 hs1).eq, (ProcPair.saved (p := ⟨k2, args⟩) k2 oid o2 r2 h2 hs2).eq, hm]
  exact ⟨rfl, rfl, rfl, rfl, rfl, fun o ho => by rw [opt_setOpt_ne _ _ _ _ ho, opt_setOpt_ne _ _ _ _ ho]⟩

/-- **Whole command line: aliases are interchangeable.**  Two option tokens that the splitter reads as the same
attached arguments under two keys of the level reached which name the same option (the name and an alias, two
aliases; `-n`, `--name`, `--name=v`, …), given anywhere an option may start — at a head position or right behind an
option that can still take values — with any tokens before and after, lead to the same result of `Parse` up to the
spelling itself: every option record agrees in every field except `CalledAs` (value, `Called`, …), the same
command is selected, the remaining arguments and the unknown-option log are the same, and the parse fails in one
case exactly when it fails in the other, with the same error up to the alias quoted in the message.  Every mode,
unknown-mode, require-order. -/
theorem alias_parse (mode : Mode) (P : Prog) (pre post : List Str) (t1 t2 k1 k2 : Str) (args : List Str)
    (oid : Nat) (hs : OptStart (run ext mode P pre))
    (ht1 : isOption t1 mode = ([⟨k1, args⟩], true)) (ht2 : isOption t2 mode = ([⟨k2, args⟩], true))
    (h1 : lookup k1 ((run ext mode P pre).P.node (run ext mode P pre).cur).opts = some oid)
    (h2 : lookup k2 ((run ext mode P pre).P.node (run ext mode P pre).cur).opts = some oid) :
    AObs (parseArgs ext mode P (pre ++ t1 :: post)) (parseArgs ext mode P (pre ++ t2 :: post)) := by
  obtain ⟨m, ha, hsim⟩ := alias_step ext mode _ t1 t2 k1 k2 args oid hs ht1 ht2 h1 h2
  unfold parseArgs
  rw [run_append, run_append]
  simp only [List.foldl_cons]
  exact AObs.of ((aeq_stepRel ext).finish ((aeq_stepRel ext).foldl mode post (.inr ha))).rel
    (finish_sim ext _ _ (foldl_sim ext mode post _ _ hsim))

/-- in particular the value, `Called` and every declared attribute of every option agree -/
theorem alias_parse_values (mode : Mode) (P : Prog) (pre post : List Str) (t1 t2 k1 k2 : Str) (args : List Str)
    (oid : Nat) (hs : OptStart (run ext mode P pre))
    (ht1 : isOption t1 mode = ([⟨k1, args⟩], true)) (ht2 : isOption t2 mode = ([⟨k2, args⟩], true))
    (h1 : lookup k1 ((run ext mode P pre).P.node (run ext mode P pre).cur).opts = some oid)
    (h2 : lookup k2 ((run ext mode P pre).P.node (run ext mode P pre).cur).opts = some oid) (o : Nat) :
    ((parseArgs ext mode P (pre ++ t1 :: post)).P.opt o).value =
      ((parseArgs ext mode P (pre ++ t2 :: post)).P.opt o).value ∧
    ((parseArgs ext mode P (pre ++ t1 :: post)).P.opt o).called =
      ((parseArgs ext mode P (pre ++ t2 :: post)).P.opt o).called ∧
    ((parseArgs ext mode P (pre ++ t1 :: post)).err.isSome =
      (parseArgs ext mode P (pre ++ t2 :: post)).err.isSome) :=
  (alias_parse ext mode P pre post t1 t2 k1 k2 args oid hs ht1 ht2 h1 h2).values o

/-- the alias that is recorded is the spelling used last: the error message and `CalledAs` are the only places
where the two runs may differ, and `CalledAs` is the key of the last occurrence -/
example :
    let a := parseArgs Demo.ext .normal Demo.prog [b "x", b "-n", b "v", b "y"]
    let c := parseArgs Demo.ext .normal Demo.prog [b "x", b "--name", b "v", b "y"]
    (a.P.opt 0).value = (c.P.opt 0).value ∧ a.rem = c.rem ∧
      (a.P.opt 0).usedAlias = b "n" ∧ (c.P.opt 0).usedAlias = b "name" := by decide +kernel

example : isOption (b "-n") .normal = ([⟨b "n", []⟩], true) ∧ isOption (b "--name") .normal = ([⟨b "name", []⟩], true) ∧
    lookup (b "n") (Demo.prog.node 0).opts = some 0 ∧ lookup (b "name") (Demo.prog.node 0).opts = some 0 ∧
    OptStart (run Demo.ext .normal Demo.prog [b "x"]) := by
  refine ⟨by decide, by decide, by decide, by decide, ?_⟩
  exact ⟨by decide, Or.inl (by decide)⟩

/-! Non-vacuity: alias `n` and name `name` set the same cell; untouched options keep their defaults. -/
example : ((parseArgs Demo.ext .normal Demo.prog [b "-n", b "x"]).P.opt 0).value =
          ((parseArgs Demo.ext .normal Demo.prog [b "--name", b "x"]).P.opt 0).value ∧
          ((parseArgs Demo.ext .normal Demo.prog [b "-n", b "x"]).P.opt 0).usedAlias = b "n" ∧
          ((parseArgs Demo.ext .normal Demo.prog [b "-n", b "x"]).P.opt 1) = Demo.prog.opt 1 ∧
          ((parseArgs Demo.ext .normal Demo.prog [b "-n", b "x"]).P.opt 2) = Demo.prog.opt 2 ∧
          ((parseArgs Demo.ext .normal Demo.prog [b "-n", b "x"]).P.opt 4).called = false := by decide +kernel

/-- **Every option not mentioned keeps its declared default and reports Called false, whatever else
is on the command line.**  "Not mentioned": no token of `args` splits into a pair that — at any
command level — resolves by name, alias or unique abbreviation to a key of the option.  Then after
the whole parse (every mode, unknown-mode, require-order, bundles, greedy values, errors) the option
record is exactly the declared one: value, `Called`, `CalledAs`. -/
theorem unmentioned_keeps_default (P : Prog) (args : List Str) (oid : Nat)
    (hnm : ¬ Mentioned mode P args oid) :
    (parseArgs ext mode P args).P.opt oid = P.opt oid :=
  later_unmentioned_keeps ext mode (initState P) args oid hnm rfl fun _ _ h => nomatch h

/-! ## `SetValue` -/

/-- **`SetValue` changes the value only.**  Whatever name and values are given, on whatever object: every
option's `Called` and `CalledAs` are what they were, and every option other than the one registered under
`name` in that object's table is untouched altogether. -/
theorem setValue_keeps_called (P : Prog) (n : Nat) (name : Str) (vals : List Str) (oid : Nat) :
    ((setValue ext P n name vals).1.opt oid).called = (P.opt oid).called ∧
    ((setValue ext P n name vals).1.opt oid).usedAlias = (P.opt oid).usedAlias ∧
    (lookup name (P.node n).opts ≠ some oid → (setValue ext P n name vals).1.opt oid = P.opt oid) := by
  unfold setValue
  cases hl : lookup name (P.node n).opts with
  | none => exact ⟨rfl, rfl, fun _ => rfl⟩
  | some t =>
    simp only
    cases hs : save ext (P.opt t).lowerKeys (P.opt t) vals with
    | error e => exact ⟨rfl, rfl, fun _ => rfl⟩
    | ok o' =>
      simp only
      rw [opt_setOpt]
      split
      · rename_i h
        have hk := save_keeps ext _ _ _ _ hs
        rw [h.1]
        exact ⟨hk.1, hk.2.1, fun hne => absurd rfl hne⟩
      · exact ⟨rfl, rfl, fun _ => rfl⟩

/-- an undeclared name is reported and changes nothing -/
theorem setValue_not_found (P : Prog) (n : Nat) (name : Str) (vals : List Str)
    (h : lookup name (P.node n).opts = none) : setValue ext P n name vals = (P, .notFound) := by
  simp [setValue, h]

/-- on the demo program: `--num=1 -v cmd --force x` mentions neither `name` (option 0) nor `list`
(option 2), and they are as declared after the parse -/
example :
    (parseArgs Demo.ext .normal Demo.prog [b "--num=1", b "-v", b "cmd", b "--force", b "x"]).P.opt 0 = Demo.prog.opt 0 ∧
    (parseArgs Demo.ext .normal Demo.prog [b "--num=1", b "-v", b "cmd", b "--force", b "x"]).P.opt 2 = Demo.prog.opt 2 ∧
    ((parseArgs Demo.ext .normal Demo.prog [b "--num=1", b "-v", b "cmd", b "--force", b "x"]).P.opt 1).called = true := by
  decide +kernel

end GoModel
