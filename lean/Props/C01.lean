import Props.C02
/-!
# C01 — scalar option values reach the program exactly as written
-/
namespace GoModel

variable (ext : Ext) (mode : Mode)

/-! ## the typed `Save` for one value: the exact value or an error, nothing else -/

def Kind.isString : Kind → Bool | .str | .strOpt => true | _ => false
def Kind.isInt : Kind → Bool | .int | .intOpt => true | _ => false
def Kind.isFloat : Kind → Bool | .flt | .fltOpt => true | _ => false

theorem save_string (lower : Bool) (o : Opt) (v : Str) (hk : o.kind.isString = true)
    (hv : validGate o [v] = true) :
    save ext lower o [v] = .ok { o with value := .s v } := by
  unfold save
  cases hkind : o.kind <;> simp [hkind, Kind.isString] at hk <;> simp [hv]

theorem save_int (lower : Bool) (o : Opt) (v : Str) (hk : o.kind.isInt = true)
    (hv : validGate o [v] = true) :
    save ext lower o [v] =
      match atoi v with
      | some n => .ok { o with value := .i n }
      | none => .error (.convInt o.usedAlias v) := by
  unfold save
  cases hkind : o.kind <;> simp [hkind, Kind.isInt] at hk <;> simp only [hv] <;> rfl

theorem save_float (lower : Bool) (o : Opt) (v : Str) (hk : o.kind.isFloat = true)
    (hv : validGate o [v] = true) :
    save ext lower o [v] =
      if ext.floatOk v then .ok { o with value := .f v } else .error (.convFloat o.usedAlias v) := by
  unfold save
  cases hkind : o.kind <;> simp [hkind, Kind.isFloat] at hk <;> simp only [hv] <;> rfl

/-- a value outside the declared valid values is an error, whatever the kind -/
theorem save_invalid (lower : Bool) (o : Opt) (v : Str) (hv : validGate o [v] = false) :
    save ext lower o [v] = .error (.wrongValue o.name o.validValues) := by
  unfold save
  simp [hv]

/-- no value: a bool reads the negation of its default, however often it is given -/
theorem save_none_bool (lower : Bool) (o : Opt) (hk : o.kind = .bool) :
    save ext lower o [] = .ok { o with value := .b (!o.boolDefault) } := by
  simp [save, hk]

/-- no value: an increment adds one -/
theorem save_none_incr (lower : Bool) (o : Opt) (v : Int) (hk : o.kind = .incr) (hv : o.value = .i v) :
    save ext lower o [] = .ok { o with value := .i (wrap64 (v + 1)) } := by
  simp [save, hk, hv]

/-! ## one occurrence in the argument loop -/

/-- `--name=v` at a head position, `name` resolving to a scalar option (at most one argument):
the option is marked called under the resolved key, `v` goes through the typed `Save` — the result is
either that exact value or the conversion error — and no further token is consumed. -/
theorem step_long_attached (s : PState) (name v key : Str) (oid : Nat)
    (he : s.err = none) (hc : s.ctx = .idle)
    (hn : name ≠ []) (hne : ∀ c ∈ name, c ≠ chEq) (hv : v ≠ [])
    (hr : resolve (s.P.node s.cur) name = [key]) (hl : lookup key (s.P.node s.cur).opts = some oid)
    (hmax : ∀ o', save ext (s.P.node 0).mapKeysToLower (matched s oid key) [v] = .ok o' → o'.max ≤ 1) :
    (∀ o', save ext (s.P.node 0).mapKeysToLower (matched s oid key) [v] = .ok o' →
      step ext mode s (chDash :: chDash :: (name ++ chEq :: v)) =
        { headState s (chDash :: chDash :: (name ++ chEq :: v)) with P := s.P.setOpt oid o', pending := [] }) ∧
    (∀ e, save ext (s.P.node 0).mapKeysToLower (matched s oid key) [v] = .error e →
      (step ext mode s (chDash :: chDash :: (name ++ chEq :: v))).err = some e) := by
  have hopt := long_attached name v mode hn hne hv
  refine ⟨fun o' hs => ?_, fun e hs => ?_⟩
  · rw [step_single_ok ext mode s _ ⟨name, [v]⟩ key oid o' he hc hopt hr hl hs,
      if_neg (by have := hmax o' hs; simp only [List.length_singleton]; omega)]
    simp only [headState, hc]
  · rw [step_single ext mode s _ _ he hc hopt]
    rw [(ProcPair.saveErr (s := { headState s _ with pending := [] }) (p := ⟨name, [v]⟩) key oid e hr hl hs).eq]

/-- a collecting occurrence that still needs its mandatory argument takes the next token `v` unless
`v` looks like an option: `v` goes through the typed `Save` -/
theorem offer_mandatory (s : PState) (o i : Nat) (v : Str)
    (hmin : (i : Int) < (s.P.opt o).min) (hlook : looksLikeOption v mode = false) :
    offer ext mode s o i v =
      match save ext (s.P.node 0).mapKeysToLower (s.P.opt o) [v] with
      | .error e => ({ s with err := some e, lastTok := v }, true)
      | .ok o' => ({ s with P := s.P.setOpt o o', lastTok := v,
                            ctx := if ((i + 1 : Nat) : Int) < o'.max then .collecting o (i + 1) else .idle }, true) := by
  rw [offer_eq, if_pos hmin, hlook, saveTok]
  cases save ext (s.P.node 0).mapKeysToLower (s.P.opt o) [v] <;> rfl

/-- … and a dash-looking token in a mandatory position is the "missing argument" error, never a value -/
theorem offer_mandatory_dash (s : PState) (o i : Nat) (v : Str)
    (hmin : (i : Int) < (s.P.opt o).min) (hlook : looksLikeOption v mode = true) :
    (offer ext mode s o i v).1.err = some (.dashArg (s.P.opt o).usedAlias) := by
  rw [offer_eq, if_pos hmin, hlook]
  rfl

/-- `--name` followed by a separate value `v` that does not look like an option: both tokens are
consumed and `v` goes through the typed `Save`. -/
theorem step_long_detached (s : PState) (name v key : Str) (oid : Nat)
    (he : s.err = none) (hc : s.ctx = .idle)
    (hn : name ≠ []) (hne : ∀ c ∈ name, c ≠ chEq) (hlook : looksLikeOption v mode = false)
    (hr : resolve (s.P.node s.cur) name = [key]) (hl : lookup key (s.P.node s.cur).opts = some oid)
    (hoid : oid < s.P.opts.length)
    (hkind : (s.P.opt oid).kind ≠ .bool) (hkind2 : (s.P.opt oid).kind ≠ .incr)
    (hmin : (s.P.opt oid).min = 1) (hmaxv : (s.P.opt oid).max = 1)
    (hmax : ∀ o', save ext (s.P.node 0).mapKeysToLower (matched s oid key) [v] = .ok o' → o'.max ≤ 1) :
    (∀ o', save ext (s.P.node 0).mapKeysToLower (matched s oid key) [v] = .ok o' →
      step ext mode (step ext mode s (chDash :: chDash :: name)) v =
        { headState s (chDash :: chDash :: name) with
            P := (s.P.setOpt oid (matched s oid key)).setOpt oid o', lastTok := v, pending := [] }) ∧
    (∀ e, save ext (s.P.node 0).mapKeysToLower (matched s oid key) [v] = .error e →
      (step ext mode (step ext mode s (chDash :: chDash :: name)) v).err = some e) := by
  -- `--name` opens the occurrence with the record `matched s oid key` …
  have hms := matched_static s oid key
  have h1 := step_single_ok ext mode s _ ⟨name, []⟩ key oid _ he hc (long_bare name mode hn hne) hr hl
    (save_none_other ext _ _ (by rw [static_kind hms]; exact hkind) (by rw [static_kind hms]; exact hkind2))
  rw [if_pos (by rw [static_max hms, hmaxv]; exact Int.zero_lt_one)] at h1
  generalize step ext mode s (chDash :: chDash :: name) = S at h1
  have hget : S.P.opt oid = matched s oid key := by rw [h1]; exact opt_setOpt_same s.P oid _ hoid
  have hm : ((0 : Nat) : Int) < (S.P.opt oid).min := by rw [hget, static_min hms, hmin]; exact Int.zero_lt_one
  have hSe : S.err = none := by rw [h1]; exact he
  have hSc : S.ctx = .collecting oid 0 := by rw [h1]; rfl
  have hSn : S.P.node 0 = s.P.node 0 := by rw [h1]; rfl
  -- … and `v` is its mandatory argument
  refine ⟨fun o' hs => ?_, fun e hs => ?_⟩
  · rw [step_collects ext mode S oid 0 v o' hSe hSc (by rw [h1]) ⟨hlook, .inl hm⟩ (by rw [hget, hSn]; exact hs),
      collected, if_neg (by have := hmax o' hs; simp only [List.length_singleton]; omega)]
    subst h1; rw [← hc]; rfl
  · have hoff := offer_mandatory ext mode S oid 0 v hm hlook
    rw [hget, hSn, hs] at hoff
    rw [step_collecting ext mode S oid 0 v hSe hSc (by rw [h1]), hoff]

/-! Non-vacuity: values with leading dashes, `=`, spaces and newlines arrive byte for byte; an
invalid numeral is an error; `--name v` with a separate token. -/
example : ((parseArgs Demo.ext .normal Demo.prog [b "--name=-a=b c\nd"]).P.opt 0).value = .s (b "-a=b c\nd") := by
  decide +kernel
example : ((parseArgs Demo.ext .bundling Demo.prog [b "--name", b "a=b"]).P.opt 0).value = .s (b "a=b") ∧
          ((parseArgs Demo.ext .bundling Demo.prog [b "--name", b "a=b"]).P.opt 0).called = true := by decide +kernel
example : (parseArgs Demo.ext .normal Demo.prog [b "--num=12x"]).err = some (.convInt (b "num") (b "12x")) := by
  decide +kernel
example : ((parseArgs Demo.ext .singleDash Demo.prog [b "--num=-0042"]).P.opt 4).value = .i (-42) := by decide +kernel

/-! ## flags, counters, optional values -/

/-- `n` bare occurrences of an option (no attached value) applied to its record -/
def bareN (lower : Bool) : Nat → Opt → Opt
  | 0, o => o
  | n + 1, o => match save ext lower (bareN lower n o) [] with
    | .ok o' => o'
    | .error _ => bareN lower n o

theorem bareN_kind (lower : Bool) (n : Nat) (o : Opt) :
    (bareN ext lower n o).kind = o.kind ∧ (bareN ext lower n o).boolDefault = o.boolDefault := by
  induction n with
  | zero => exact ⟨rfl, rfl⟩
  | succ n ih =>
    simp only [bareN]
    split
    · have h := save_static ext _ _ _ _ ‹_›
      exact ⟨(static_kind h).trans ih.1, (congrArg Opt.boolDefault h).trans ih.2⟩
    · exact ih

/-- A bool option passed any number of times (≥ 1) reads the negation of its default. -/
theorem bool_n_times (lower : Bool) (n : Nat) (o : Opt) (hk : o.kind = .bool) :
    (bareN ext lower (n + 1) o).value = .b (!o.boolDefault) := by
  have h := bareN_kind ext lower n o
  simp only [bareN]
  rw [save_none_bool ext lower _ (by rw [h.1, hk])]
  simp [h.2]

theorem wrap64_succ (a : Int) : wrap64 (wrap64 a + 1) = wrap64 (a + 1) := by
  unfold wrap64; omega

/-- An increment option reads its default plus the number of occurrences (Go `int` arithmetic). -/
theorem incr_n_times (lower : Bool) (n : Nat) (o : Opt) (v : Int) (hk : o.kind = .incr) (hv : o.value = .i v)
    (hr : minInt64 ≤ v ∧ v ≤ maxInt64) :
    (bareN ext lower n o).value = .i (wrap64 (v + n)) ∧ (bareN ext lower n o).kind = .incr := by
  induction n with
  | zero =>
    refine ⟨?_, hk⟩
    simp only [bareN, hv]
    congr 1
    unfold wrap64 minInt64 maxInt64 at *
    omega
  | succ n ih =>
    simp only [bareN]
    rw [save_none_incr ext lower _ (wrap64 (v + n)) ih.2 ih.1]
    refine ⟨?_, ih.2⟩
    simp only
    congr 1
    rw [wrap64_succ]
    congr 1
    omega

example : ((parseArgs Demo.ext .normal Demo.prog [b "-v", b "--verbose", b "-v"]).P.opt 1).value = .b true := by decide +kernel
example : ((parseArgs Demo.ext .normal Demo.prog [b "--opt", b "--verbose"]).P.opt 3).value = .s (b "d") ∧
          ((parseArgs Demo.ext .normal Demo.prog [b "--opt", b "--verbose"]).P.opt 3).called = true := by decide +kernel

/-! ## end to end: the last occurrence decides -/

/-- **The last occurrence decides (attached form).**  `argv = pre ++ ["--name=v"] ++ post`, the parser is
at a head position after `pre`, `name` resolves (exactly, by alias or unique abbreviation) to the scalar
option `oid`, `v` is accepted by the typed conversion giving the record `o'`, and nothing in `post`
mentions the option: then after the whole parse the option record is exactly `o'` - the value read from
`v`, `Called`, `CalledAs = key` - whatever `pre` did to the option before and whatever else `post`
contains (other options, commands, unknown options, `--`, values). -/
theorem attached_value_is_final (P : Prog) (pre post : List Str) (name v key : Str) (oid : Nat) (o' : Opt)
    (he : (run ext mode P pre).err = none) (hc : (run ext mode P pre).ctx = .idle)
    (hn : name ≠ []) (hne : ∀ c ∈ name, c ≠ chEq) (hv : v ≠ [])
    (hr : resolve (P.node (run ext mode P pre).cur) name = [key])
    (hl : lookup key (P.node (run ext mode P pre).cur).opts = some oid)
    (hoid : oid < P.opts.length)
    (hs : save ext (P.node 0).mapKeysToLower (matched (run ext mode P pre) oid key) [v] = .ok o')
    (hmax : o'.max ≤ 1)
    (hpost : ¬ Mentioned mode P post oid) :
    (parseArgs ext mode P (pre ++ (chDash :: chDash :: (name ++ chEq :: v)) :: post)).P.opt oid = o' := by
  have hsh := run_shape ext mode P pre
  rw [parseArgs_cons]
  generalize run ext mode P pre = s at he hc hr hl hs hsh
  rw [← hsh.node] at hr hl hs
  have h1 := (step_long_attached ext mode s name v key oid he hc hn hne hv hr hl
    (fun o2 h2 => by rw [hs] at h2; cases h2; exact hmax)).1 o' hs
  rw [h1]
  have hnm : ¬ Mentioned mode (s.P.setOpt oid o') post oid := by
    rw [mentioned_congr mode (P' := s.P.setOpt oid o') (P := P) (fun n => hsh.node n)]
    exact hpost
  have := later_unmentioned_keeps ext mode
    { headState s (chDash :: chDash :: (name ++ chEq :: v)) with P := s.P.setOpt oid o', pending := [] }
    post oid hnm rfl (fun o i h => by simp [headState, hc] at h)
  rw [this]
  exact opt_setOpt_same s.P oid o' (by rw [hsh.2]; exact hoid)

/-- **The last occurrence decides (detached form).**  The same for `--name v` with a separate value
token that does not look like an option, for the kinds that take exactly one mandatory argument. -/
theorem detached_value_is_final (P : Prog) (pre post : List Str) (name v key : Str) (oid : Nat) (o' : Opt)
    (he : (run ext mode P pre).err = none) (hc : (run ext mode P pre).ctx = .idle)
    (hn : name ≠ []) (hne : ∀ c ∈ name, c ≠ chEq) (hlook : looksLikeOption v mode = false)
    (hr : resolve (P.node (run ext mode P pre).cur) name = [key])
    (hl : lookup key (P.node (run ext mode P pre).cur).opts = some oid)
    (hoid : oid < P.opts.length)
    (hkind : ((run ext mode P pre).P.opt oid).kind ≠ .bool) (hkind2 : ((run ext mode P pre).P.opt oid).kind ≠ .incr)
    (hmin : ((run ext mode P pre).P.opt oid).min = 1) (hmaxv : ((run ext mode P pre).P.opt oid).max = 1)
    (hs : save ext (P.node 0).mapKeysToLower (matched (run ext mode P pre) oid key) [v] = .ok o')
    (hmax : o'.max ≤ 1)
    (hpost : ¬ Mentioned mode P post oid) :
    (parseArgs ext mode P (pre ++ (chDash :: chDash :: name) :: v :: post)).P.opt oid = o' := by
  -- `occurrence_values_in_order` with the one value `v`; there kind and bounds are those of the declared record
  have hst := run_static_eq ext mode P pre oid
  rw [static_kind hst] at hkind hkind2
  rw [static_min hst] at hmin
  rw [static_max hst] at hmaxv
  exact occurrence_values_in_order ext mode P pre post [v] name key oid o' he hc hn hne hr hl hoid hkind hkind2
    (List.cons_ne_nil _ _) (by rw [hmaxv]; exact Int.le_refl 1) (by rw [hmin]; exact Int.le_refl 1)
    ⟨⟨hlook, .inl (by rw [hmin]; exact Int.zero_lt_one)⟩, trivial⟩ (by rw [saveAll, hs]; rfl) (.inl (by rw [hmaxv]; rfl))
    hpost

/-! Non-vacuity on the demo program: `--name=a -v --name=b cmd --force x`: the later occurrence of
`name` (option 0) is followed by tokens that do not mention it; the theorem's conclusion, computed. -/
example :
    ((parseArgs Demo.ext .normal Demo.prog
      [b "--name=a", b "-v", b "--name=b", b "cmd", b "--force", b "x"]).P.opt 0).value = .s (b "b") ∧
    (run Demo.ext .normal Demo.prog [b "--name=a", b "-v"]).ctx = .idle ∧
    (run Demo.ext .normal Demo.prog [b "--name=a", b "-v"]).err = none := by
  decide +kernel

end GoModel
