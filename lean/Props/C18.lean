import Props.C11
import Lemmas.HelpBytes
import Lemmas.HelpLists
/-!
# C18 — generated help lists every option, alias, argument and command exactly once

Theorems are about the lists the text is rendered from (`helpOptions`, `requiredOpts`, `normalOpts`,
`helpCommands`), about the rendering functions of one entry, and (last section) about the bytes of the rendered
text: it contains the complete entry of every option in the right block, every synopsis item and every command
line.  Byte-for-byte equality of the model's text with the real help is what the correspondence check establishes.
-/
namespace GoModel

variable (ext : Ext)

/-- **Every option once, no alias as a separate entry.**  The entries of the two option sections
together are a permutation of the options whose *name* is a key of the level's table; an entry is
made only where the key equals the option's name, so aliases never form entries of their own. -/
theorem options_sections_perm (P : Prog) (nd : Node) :
    (requiredOpts P nd ++ normalOpts P nd).Perm (helpOptions P nd) := by
  unfold requiredOpts normalOpts
  have h1 := sortByName_perm P ((helpOptions P nd).filter fun o => (P.opt o).required)
  have h2 := sortByName_perm P ((helpOptions P nd).filter fun o => !(P.opt o).required)
  exact (h1.append h2).trans (List.filter_append_perm _ _)

/-- with distinct keys (a Go map) no option is listed twice -/
theorem helpOptions_nodup (P : Prog) (nd : Node) (hnd : (nd.opts.map (·.1)).Nodup) : (helpOptions P nd).Nodup :=
  List.Pairwise.of_map (fun o => (P.opt o).name) (fun _ _ h e => h (e ▸ rfl)) (helpOptions_names_nodup P nd hnd)

/-- an option is listed exactly when its name is a key of the table leading to it (own or inherited) -/
theorem mem_helpOptions (P : Prog) (nd : Node) (o : Nat) (hnd : (nd.opts.map (·.1)).Nodup) :
    o ∈ helpOptions P nd ↔ lookup (P.opt o).name nd.opts = some o := by
  unfold helpOptions
  simp only [List.mem_map, List.mem_filter]
  constructor
  · rintro ⟨kv, ⟨hm, hk⟩, rfl⟩
    have e : kv.1 = (P.opt kv.2).name := by simpa using hk
    rw [← e]
    exact lookup_of_mem_nodup nd.opts kv.1 kv.2 hnd hm
  · intro h
    exact ⟨((P.opt o).name, o), ⟨lookup_mem _ _ _ h, by simp⟩, rfl⟩

/-- **Required section iff required.** -/
theorem mem_requiredOpts (P : Prog) (nd : Node) (o : Nat) :
    o ∈ requiredOpts P nd ↔ o ∈ helpOptions P nd ∧ (P.opt o).required = true := by
  unfold requiredOpts
  rw [(sortByName_perm P _).mem_iff]
  simp [List.mem_filter]

theorem mem_normalOpts (P : Prog) (nd : Node) (o : Nat) :
    o ∈ normalOpts P nd ↔ o ∈ helpOptions P nd ∧ (P.opt o).required = false := by
  unfold normalOpts
  rw [(sortByName_perm P _).mem_iff]
  simp [List.mem_filter]

/-- the entry of an option shows all its aliases: the synopsis starts with every alias joined by `|` -/
theorem synopsis_lists_aliases (o : Opt) : synopsisOf o = aliasText o ++ synTail o := rfl

/-- a non-required option shows its default (and its environment variable when bound) -/
theorem helpTail_default (o : Opt) (h : o.required = false) :
    helpTail o = (if o.description.isEmpty then [] else [chSp]) ++ b "(default: " ++ o.defaultStr ++
      (if o.envVar.isEmpty then [] else b ", env: " ++ o.envVar) ++ b ")\n\n" := by
  simp [helpTail, h]

/-- a required option bound to an environment variable shows the variable (and no default) -/
theorem helpTail_required (o : Opt) (h : o.required = true) :
    helpTail o = (if o.envVar.isEmpty then []
      else (if o.description.isEmpty then [] else [chSp]) ++ b "(env: " ++ o.envVar ++ b ")") ++ b "\n\n" := by
  simp [helpTail, h]

theorem helpString_split (o : Opt) (factor : Nat) : helpString o factor = helpLead o factor ++ helpTail o := rfl

/-- **Synopsis mentions every option**, required ones unbracketed: one item per option of the two
sections, in section order -/
theorem synopsis_items (P : Prog) (nd : Node) :
    ((requiredOpts P nd ++ normalOpts P nd).map fun o => optSynopsis (P.opt o)).length =
      (helpOptions P nd).length := by
  rw [List.length_map]
  exact (options_sections_perm P nd).length_eq

theorem optSynopsis_required (o : Opt) (h : o.required = true) :
    optSynopsis o = if o.kind.isRepeat then b "<" ++ synopsisOf o ++ b ">" ++ b "..." else synopsisOf o := by
  unfold optSynopsis
  simp [h]

theorem optSynopsis_optional (o : Opt) (h : o.required = false) :
    optSynopsis o = if o.kind.isRepeat then b "[" ++ synopsisOf o ++ b "]" ++ b "..." else b "[" ++ synopsisOf o ++ b "]" := by
  unfold optSynopsis
  simp [h]

/-- **Commands once, without the help command**: the entries listed are exactly the entries of the level's
command table — under the name each is registered and invoked with — except the help command; since the table
has distinct keys (`AddChildCommand` refuses a duplicate) each sub-command is listed once, whatever `Self`
later did to a command's own name. -/
theorem mem_helpCommands (nd : Node) (k : Str) (c : Nat) :
    (k, c) ∈ helpCommands nd ↔ (k, c) ∈ nd.cmds ∧ k ≠ nd.helpName := by
  unfold helpCommands
  simp only [List.mem_filter]
  constructor
  · rintro ⟨hm, hk⟩; exact ⟨hm, by simpa using hk⟩
  · rintro ⟨hm, hk⟩; exact ⟨hm, by simpa using hk⟩

/-- **The same text three ways**: the help option, the help command (without topic) at a level, and
`Help()` after `Parse` all evaluate `helpOutput` of that level with the default sections. -/
theorem same_text_option_and_command (s s2 : PState) (rem : List Str)
    (hopt : helpRequested s.P s.cur = true)
    (hcmd : helpRequested s2.P s2.cur = false) (hr : checkRequired s2.P s2.cur = none)
    (hh : (s2.P.node s2.cur).isHelp = true) (hparent : (s2.P.node s2.cur).parent = some s.cur) (hP : s2.P = s.P) :
    dispatch ext s rem = dispatch ext s2 [] := by
  rw [help_bypasses ext s rem hopt, help_command ext s2 [] hcmd hr hh]
  rw [hP] at hparent
  simp [hparent, hP]

/-! ## the bytes of the help text -/

/-- **Every option available at the level has its complete entry in the help text, in the right block.**
`o ∈ helpOptions` (by `mem_helpOptions`: exactly the own and inherited options of the level, aliases filtered
out): the default help text contains, contiguously, `helpString` of the option — its aliases joined by `|`
(`synopsis_lists_aliases`), argument name, description, and the `(default: …, env: …)` tail of `helpTail_default` /
`helpTail_required` — inside the REQUIRED PARAMETERS block exactly when the option is required, inside the
OPTIONS block otherwise. -/
theorem option_entry_in_help_text (P : Prog) (n o : Nat) (ho : o ∈ helpOptions P (P.node n)) :
    helpString (P.opt o) (helpFactor P (P.node n)) <:+: helpOutput ext P n [] ∧
    ((P.opt o).required = true →
      helpString (P.opt o) (helpFactor P (P.node n)) <:+: requiredBlock ext P (P.node n) ∧
      requiredBlock ext P (P.node n) <:+: helpOutput ext P n []) ∧
    ((P.opt o).required = false →
      helpString (P.opt o) (helpFactor P (P.node n)) <:+: optionsBlock ext P (P.node n) ∧
      optionsBlock ext P (P.node n) <:+: helpOutput ext P n []) := by
  have hreq : (P.opt o).required = true →
      helpString (P.opt o) (helpFactor P (P.node n)) <:+: requiredBlock ext P (P.node n) ∧
      requiredBlock ext P (P.node n) <:+: helpOutput ext P n [] := by
    intro hr
    have hm : o ∈ requiredOpts P (P.node n) := (mem_requiredOpts P _ o).mpr ⟨ho, hr⟩
    exact ⟨entry_in_requiredBlock ext P _ o hm,
      (requiredBlock_in_list ext P _ (List.ne_nil_of_mem hm)).trans (optionList_in_default ext P n)⟩
  have hnorm : (P.opt o).required = false →
      helpString (P.opt o) (helpFactor P (P.node n)) <:+: optionsBlock ext P (P.node n) ∧
      optionsBlock ext P (P.node n) <:+: helpOutput ext P n [] := by
    intro hr
    have hm : o ∈ normalOpts P (P.node n) := (mem_normalOpts P _ o).mpr ⟨ho, hr⟩
    exact ⟨entry_in_optionsBlock ext P _ o hm,
      (optionsBlock_in_list ext P _ (List.ne_nil_of_mem hm)).trans (optionList_in_default ext P n)⟩
  refine ⟨?_, hreq, hnorm⟩
  cases hr : (P.opt o).required with
  | true => exact (hreq hr).1.trans (hreq hr).2
  | false => exact (hnorm hr).1.trans (hnorm hr).2

/-- **Every option of the level is mentioned in the synopsis of the help text** — unbracketed when required
(`optSynopsis_required`), bracketed otherwise. -/
theorem option_in_synopsis_text (P : Prog) (n o : Nat) (ho : o ∈ helpOptions P (P.node n)) :
    optSynopsis (P.opt o) <:+: helpOutput ext P n [] := by
  have hm : o ∈ requiredOpts P (P.node n) ++ normalOpts P (P.node n) :=
    (options_sections_perm P (P.node n)).mem_iff.mpr ho
  exact (synopsis_item_in_text ext P n o hm).trans (synopsis_in_default ext P n)

/-- **Every sub-command except the help command has its line** (registered name, padded, description) **in the
help text.** -/
theorem command_line_in_help_text (P : Prog) (n : Nat) (k : Str) (c : Nat)
    (h : (k, c) ∈ (P.node n).cmds) (hk : k ≠ (P.node n).helpName) :
    commandLine P (P.node n) k <:+: helpOutput ext P n [] := by
  have hm : (k, c) ∈ helpCommands (P.node n) := (mem_helpCommands _ k c).mpr ⟨h, hk⟩
  have hs : k ∈ sortStrs ((helpCommands (P.node n)).map (·.1)) :=
    (mem_sortStrs _ k).mpr (List.mem_map.mpr ⟨(k, c), hm, rfl⟩)
  exact (commandLine_in_list ext P (P.node n) k hs).trans
    ((infix_dropEmpty _ _).trans (section_in_default ext P n .commandList (by simp [defaultSections])))

/-! Non-vacuity: the demo program's root help lists each option once, `cmd` once, not `help`. -/
example : (helpOptions Demo.prog (Demo.prog.node 0)).length = 7 ∧
          (helpCommands (Demo.prog.node 0)).length = 1 ∧
          (requiredOpts Demo.prog (Demo.prog.node 0)) = [] := by decide +kernel

-- the entry of `name` (option 0, alias n) as it stands in the demo program's help text
example : helpString (Demo.prog.opt 0) (helpFactor Demo.prog (Demo.prog.node 0)) =
    b "    --name|-n <string>    (default: \"def\")\n\n" := by decide +kernel

/-- `HelpNone` contributes nothing: asking for it alone gives the empty text, and adding it to a list of sections
changes nothing -/
theorem help_none_prints_nothing (ext : Ext) (P : Prog) (n : Nat) (secs secs' : List Section) :
    helpOutput ext P n [.none] = [] ∧
    (secs ≠ [] → helpOutput ext P n (secs ++ .none :: secs') = helpOutput ext P n (secs ++ secs')) := by
  constructor
  · simp [helpOutput, helpSection]
  · intro h
    have h1 : (secs ++ Section.none :: secs').isEmpty = false := by cases secs <;> simp_all
    have h2 : (secs ++ secs').isEmpty = false := by cases secs <;> simp_all
    simp [helpOutput, h1, h2, helpSection]

end GoModel
