import Lemmas.Split
import Lemmas.Demo
import Lemmas.OptStart
/-!
# C05 — abbreviations: unique prefix = full name, exact name wins, ambiguity errors
-/
namespace GoModel

variable (ext : Ext)

/-- A prefix that is not itself a declared name and matches exactly one declared name/alias of the
level resolves to that full name — for every key set (the table is a Go map: keys are distinct). -/
theorem resolve_unique_prefix (nd : Node) (k k' : Str) (hnd : (nd.opts.map (·.1)).Nodup)
    (hnot : lookup k nd.opts = none) (hmem : k' ∈ nd.opts.map (·.1)) (hpre : hasPrefix k' k = true)
    (huniq : ∀ x ∈ nd.opts, hasPrefix x.1 k = true → x.1 = k') :
    resolve nd k = [k'] := by
  simp only [resolve, hnot]
  exact filter_unique nd.opts (fun key => hasPrefix key k) k' hnd hmem hpre huniq

/-- A prefix matching two or more names (and not itself a name) is always rejected: the parse fails
with the ambiguity error carrying the sorted candidate list, and no option, no remaining argument
and no unknown-option record changes because of it. -/
theorem ambiguous_rejected (s : PState) (p : Pair) (k1 k2 : Str) (ks : List Str)
    (h : resolve (s.P.node s.cur) p.opt = k1 :: k2 :: ks) :
    (procPair ext s p).err = some (.ambiguous s.lastTok (sortStrs (k1 :: k2 :: ks))) ∧
    (procPair ext s p).P = s.P ∧ (procPair ext s p).rem = s.rem ∧ (procPair ext s p).unk = s.unk := by
  rw [procPair_amb ext s p k1 k2 ks h]
  exact ⟨rfl, rfl, rfl, rfl⟩

/-- when is a prefix ambiguous: it is not a key and at least two keys start with it -/
theorem resolve_ambiguous_iff (nd : Node) (k : Str) :
    (resolve nd k).length ≥ 2 ↔
      lookup k nd.opts = none ∧ ((nd.opts.filter fun kv => hasPrefix kv.1 k).length ≥ 2) := by
  unfold resolve
  cases h : lookup k nd.opts with
  | some o => simp
  | none => simp

/-- an error is absorbing: after the ambiguity error nothing is interpreted any more -/
theorem error_absorbing (mode : Mode) (s : PState) (ts : List Str) (h : s.err.isSome = true) :
    finish ext (ts.foldl (step ext mode) s) = s := by
  rw [foldl_err ext mode s ts h, finish_err ext s h]

/-- **Whole command line**: replacing the long token `--k[=v]`, where `k` is an abbreviation that
resolves to the declared name `k'`, by `--k'[=v]` — anywhere an option may start (head position or right
behind an option that can still take values), with any tokens
before and after — changes nothing observable in the result of the parse: same option values and
`CalledAs`, same selected command, same remaining arguments, same unknown-option log, same error. -/
theorem abbrev_parse (mode : Mode) (P : Prog) (pre post : List Str) (k k' g3 : Str)
    (hk : k ≠ []) (hkq : ∀ c ∈ k, c ≠ chEq) (hk' : k' ≠ []) (hkq' : ∀ c ∈ k', c ≠ chEq) (hg : G3 g3)
    (hs : OptStart (run ext mode P pre))
    (h : resolve ((run ext mode P pre).P.node (run ext mode P pre).cur) k = [k'])
    (h' : resolve ((run ext mode P pre).P.node (run ext mode P pre).cur) k' = [k']) :
    ObsEq (parseArgs ext mode P (pre ++ [chDash :: chDash :: (k ++ g3)] ++ post))
          (parseArgs ext mode P (pre ++ [chDash :: chDash :: (k' ++ g3)] ++ post)) := by
  apply parse_of_sim
  simp only [List.foldl_cons, List.foldl_nil]
  exact abbrev_sim' ext mode _ _ _ k k' (attached g3) hs
    (isOption_long k g3 mode hk hkq hg) (isOption_long k' g3 mode hk' hkq' hg) h h'

/-- **Whole command line: an ambiguous abbreviation fails the parse.**  An option token given at a head
position whose name is not a declared key and is a prefix of two or more keys of the level reached makes the
finished parse fail with the ambiguity error that quotes the token and lists *all* the candidates, sorted; no
option changes because of it or after it, nothing after it is interpreted, the remaining list stays what it was. -/
theorem ambiguous_parse (mode : Mode) (P : Prog) (pre post : List Str) (t : Str) (p : Pair) (k1 k2 : Str)
    (ks : List Str)
    (he : (run ext mode P pre).err = none) (hc : (run ext mode P pre).ctx = .idle)
    (hopt : isOption t mode = ([p], true))
    (hr : resolve ((run ext mode P pre).P.node (run ext mode P pre).cur) p.opt = k1 :: k2 :: ks) :
    let r := parseArgs ext mode P (pre ++ t :: post)
    r.err = some (.ambiguous t (sortStrs (k1 :: k2 :: ks))) ∧ r.P = (run ext mode P pre).P ∧
      r.rem = (run ext mode P pre).rem ∧ r.cur = (run ext mode P pre).cur := by
  rw [parseArgs_cons, step_single ext mode _ t p he hc hopt,
    procPair_amb ext { headState (run ext mode P pre) t with pending := [] } p k1 k2 ks hr,
    foldl_err ext mode _ post rfl, finish_err ext _ rfl]
  exact ⟨rfl, rfl, rfl, rfl⟩

/-! Non-vacuity on a concrete program: nested prefixes `v` / `verbose`, abbreviation `--verb`,
ambiguity `--n` between `name`, `n`(exact wins) and `num`. -/
example : resolve (Demo.prog.node 0) (b "verb") = [b "verbose"] ∧
          resolve (Demo.prog.node 0) (b "v") = [b "v"] ∧
          resolve (Demo.prog.node 0) (b "n") = [b "n"] ∧
          resolve (Demo.prog.node 0) (b "nu") = [b "num"] ∧
          (resolve (Demo.prog.node 0) (b "l")).length = 1 ∧
          (resolve (Demo.prog.node 0) (b "na")) = [b "name"] := by decide +kernel

example : (parseArgs Demo.ext .normal Demo.prog [b "--verb", b "--name=x"]).P.opt 1 =
          (parseArgs Demo.ext .normal Demo.prog [b "--verbose", b "--name=x"]).P.opt 1 := by decide +kernel

/-- `--ver` is ambiguous between `verbose` and `version`: rejected with the sorted candidates, and the
option set before it keeps its value while nothing after it is interpreted -/
example : (parseArgs Demo.ext .normal Demo.prog [b "--name=x", b "--ver", b "--num=3"]).err =
            some (.ambiguous (b "--ver") [b "verbose", b "version"]) ∧
          ((parseArgs Demo.ext .normal Demo.prog [b "--name=x", b "--ver", b "--num=3"]).P.opt 4).called = false := by
  decide +kernel

end GoModel
