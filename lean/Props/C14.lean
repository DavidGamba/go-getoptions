import Props.C13
import Lemmas.Rerun
/-!
# C14 — failures, skips and cancellation stop dependents and are fully reported
-/
namespace GoModel.Dag

/-- the error list only grows: once a failure or the cancellation is recorded it stays -/
theorem errs_monotone (c : Cfg) (s s' : Sched) (ev : Event) (hs : step? c s ev = some s') :
    ∃ more, s'.errs = s.errs ++ more := ⟨_, step_errs c s s' ev hs⟩

/-- **After a failure (or the cancellation) nothing is launched any more**: with a non-empty error
list no vertex can be picked as a real task. -/
theorem failure_stops_launches (c : Cfg) (s : Sched) (v : Nat) (h : s.errs ≠ []) :
    step? c s (.pickReal v) = none :=
  step?_eq_none fun _ hst => by
    cases hst with
    | vertex hv _ => cases hv with
      | pickReal _ _ _ _ he => exact h he

/-- once the cancellation was observed the error list is non-empty, so nothing is launched, while
in-flight tasks can still hand over their results (`recv` does not look at the error list) -/
theorem cancel_stops (c : Cfg) (s s' : Sched) (hs : step? c s .cancel = some s') :
    s'.errs ≠ [] ∧ s'.cancelled = true ∧ ∀ v, step? c s' (.pickReal v) = none := by
  cases step?_step hs with
  | cancel => exact ⟨by simp, rfl, fun v => failure_stops_launches c _ v (by simp)⟩
  | vertex hv _ => cases hv

/-- the cancellation is reported once: it cannot be observed a second time -/
theorem cancel_once (c : Cfg) (s : Sched) (h : s.cancelled = true) : step? c s .cancel = none :=
  step?_eq_none fun _ hst => by
    cases hst with
    | cancel hc => rw [h] at hc; cases hc
    | vertex hv _ => cases hv

/-- **A dependent of a failed task is never started.**  If the final attempt of `d` failed (or `d` was
never started), no task that transitively depends on `d` is ever entered — in any reachable state. -/
theorem dependents_of_failed_never_run (c : Cfg) (hc : Scheduled c) (s : Sched) (hr : Reachable c s) (v d : Nat)
    (hp : Path c.g.children v d) (hbad : (s.get d).out ≠ some .ok ∨ (s.get d).real = false) :
    (s.get v).real = false := by
  cases hv : (s.get v).real with
  | false => rfl
  | true =>
    have := real_descendants_done c hc s hr v d hv hp
    rcases hbad with h | h
    · exact absurd this.2.1 h
    · rw [h] at this; cases this.2.2

/-- **The final report.**  The error value `Run` returns after a trace consists of exactly: one entry
per task whose final attempt failed, one `ErrorTaskSkipped` entry per vertex completed in error mode,
and the cancellation entry if it was observed. -/
theorem final_report (c : Cfg) (evs : List Event) (s : Sched) (i : Nat) (ha : accept c initSched evs i = .ok s) :
    s.errs = evs.filterMap entryOf := by
  have := accept_errs c evs initSched s i ha
  simpa [initSched] using this

/-- a vertex marked through `ErrorSkipParents` is never picked in error mode afterwards, hence never
reported as skipped from then on; it is only ever pseudo-processed -/
theorem marked_not_reported (c : Cfg) (hc : Scheduled c) (s : Sched) (hr : Reachable c s) (v : Nat)
    (hm : (s.get v).marked = true) :
    step? c s (.pickErr v) = none ∧ step? c s (.pickReal v) = none := by
  have hst := ((reachable_sinv c hc.ancOK s hr).a4 v hm).1
  constructor
  · exact step?_eq_none fun _ h => by
      cases h with
      | vertex hv _ => cases hv with
        | pickErr _ _ _ hp => exact hst hp
  · exact step?_eq_none fun _ h => by
      cases h with
      | vertex hv _ => cases hv with
        | pickReal _ _ _ hp => exact hst hp

/-- `ErrorSkipParents` marks every transitive dependent, does not touch the error list, and is
therefore not a failure by itself -/
theorem skipParents_effect (c : Cfg) (hc : Scheduled c) (s s' : Sched) (hr : Reachable c s) (v : Nat)
    (hs : step? c s (.recv v .skipParents) = some s') :
    s'.errs = s.errs ∧ (∀ a, a ∈ anc c v → (s'.get a).marked = true ∧ (s'.get a).st = .skip) := by
  have hst := step?_step hs
  refine ⟨by simpa [entryOf] using hst.errs, fun a ha => ?_⟩
  cases hst with
  | vertex hv hn => cases hv; exact absurd rfl hn
  | skip => rw [markAncestors_get, if_pos ha]; exact ⟨rfl, rfl⟩

/-- the ancestors marked are all transitive dependents: the direct ones and, recursively, theirs -/
theorem anc_covers_dependents (c : Cfg) (hc : Scheduled c) (v : Nat) :
    (∀ p, p ∈ c.g.parents v → p ∈ anc c v) ∧ (∀ x q, x ∈ anc c v → q ∈ c.g.parents x → q ∈ anc c v) :=
  ⟨hc.ancOK.direct v, hc.ancOK.closed v⟩

/-- **Run returns nil exactly when nothing failed**: when the loop ends with an empty error list, every
vertex is done and its last completion is nil (a real success, or a pseudo completion of a vertex
skipped through `ErrorSkipParents`) or `ErrorSkipParents` itself. -/
theorem nil_result (c : Cfg) (hc : Scheduled c) (s : Sched) (hr : Reachable c s) (hd : allDone c s = true)
    (he : s.errs = []) (v : Nat) (hv : v ∈ c.g.ids) :
    ((s.get v).out = some .ok ∧ ((s.get v).real = true ∨ (s.get v).marked = true)) ∨
    ((s.get v).out = some .skipParents ∧ (s.get v).real = true) :=
  have hinv := reachable_sinv c hc.ancOK s hr
  (hinv.vok v).done_out (allDone_iff.mp hd v hv) ⟨(hinv.ce he v).1, (hinv.ce he v).2.1⟩

/-- conversely a recorded failure, skip-in-error-mode or cancellation makes the result non-nil -/
theorem failure_reported (c : Cfg) (s s' : Sched) (v : Nat) (r : Res) (hr : r = .err ∨ r = .taskSkipped)
    (hs : step? c s (.recv v r) = some s') : s'.errs ≠ [] := by
  have := step_errs c s s' _ hs
  rcases hr with rfl | rfl <;> simp [entryOf] at this <;> rw [this] <;> simp

/-! Non-vacuity: 2 → 1, task 1 fails: task 2 is completed in error mode and reported as skipped. -/
example : ((accept demoCfg initSched
    [.pickReal 1, .semAcq 1, .lockAcq 1, .enter 1 0, .leave 1 0 .err, .recv 1 .err, .semRel 1,
     .pickErr 2, .recv 2 .taskSkipped, .exit] 0).toOption.map (·.errs)) = some [.task 1, .skipped 2] := by
  decide
example : ((accept demoCfg initSched
    [.pickReal 1, .semAcq 1, .lockAcq 1, .enter 1 0, .leave 1 0 .skipParents, .recv 1 .skipParents, .semRel 1,
     .pickSkip 2, .recv 2 .ok, .exit] 0).toOption.map (·.errs)) = some [] := by
  decide

/-! ## a later `Run` of the same graph

`Lemmas/Rerun.lean`: `rerun s` is the state in which a later `Run` of the same `*Graph` enters its loop
(statuses and collected errors kept; channels, semaphore and the cancellation flag new), `secondRunEarly`
its first statement (`if len(g.errs.Errors) != 0 { return g.errs }`). -/

/-- **A second run starts nothing** (`second_run_starts_nothing`), restated for reachable states: once a
`Run` has returned, a later `Run` of the same graph can pick no vertex, receive nothing, run no
goroutine step; only the end of the loop (and, in the model, the cancellation) is possible. -/
theorem second_run_quiet (c : Cfg) (s s' : Sched) (ev : Event) (hr : Reachable c s) (hx : s.exited = true)
    (hs : step? c (rerun s) ev = some s') : ev = .exit ∨ ev = .cancel :=
  second_run_starts_nothing c s s' ev (reachable_exitInv c s hr hx) hs

/-- **Same verdict**: a failed run stays failed - a later `Run` returns the
same non-empty error list at once; a run that returned nil is followed by a run that starts nothing and
returns nil. -/
theorem second_run_verdict (c : Cfg) (s : Sched) (hr : Reachable c s) (hx : s.exited = true) :
    (s.errs ≠ [] → secondRunEarly s = some s.errs) ∧
    (s.errs = [] → secondRunEarly s = none ∧
      ∃ s', step? c (rerun s) .exit = some s' ∧ s'.errs = [] ∧ s'.exited = true) :=
  ⟨fun h => by simp [secondRunEarly, h], fun h =>
    ⟨by simp [secondRunEarly, h], _, second_run_exits c s (reachable_exitInv c s hr hx), by simp [rerun, h], rfl⟩⟩

/-! Non-vacuity: the failed run of the example above has exited with two entries; a second `Run`
returns them at once. -/
example : ((accept demoCfg initSched
    [.pickReal 1, .semAcq 1, .lockAcq 1, .enter 1 0, .leave 1 0 .err, .recv 1 .err, .semRel 1,
     .pickErr 2, .recv 2 .taskSkipped, .exit] 0).toOption.map fun s => (s.exited, secondRunEarly s)) =
    some (true, some [.task 1, .skipped 2]) := by
  decide

end GoModel.Dag
