import Props.C01
import Lemmas.DefFrame
/-!
# C12 — value precedence is command line over environment variable over default
-/
namespace GoModel

variable (ext : Ext)

/-- an unset or empty variable changes nothing (only the binding itself is recorded for the help) -/
theorem env_empty (env : Env) (o : Opt) (name : Str) (h : getenv env name = []) :
    applyGetEnv ext env o name = { o with envVar := name } := by
  simp [applyGetEnv, h]

/-- bool: `true` / `false` in any ASCII casing set the value and mark the option called under the
variable's name; any other text changes nothing -/
theorem env_bool (env : Env) (o : Opt) (name : Str) (hk : o.kind = .bool) (hne : getenv env name ≠ [])
    (hg : o.validValues = []) :
    applyGetEnv ext env o name =
      if asciiLower (getenv env name) == b "true" then
        { o with envVar := name, value := .b true, called := true, usedAlias := name }
      else if asciiLower (getenv env name) == b "false" then
        { o with envVar := name, value := .b false, called := true, usedAlias := name }
      else { o with envVar := name } := by
  unfold applyGetEnv
  simp only [List.isEmpty_eq_false_iff.mpr hne, Bool.false_eq_true, ↓reduceIte, hk]
  by_cases ht : (asciiLower (getenv env name) == b "true") = true
  · simp [ht, save, validGate, hg]
  · by_cases hf : (asciiLower (getenv env name) == b "false") = true
    · simp [ht, hf, save, validGate, hg]
    · simp [ht, hf]

/-- a string, int or float option bound to a variable that is set: the text goes through `Save`; the option is marked
called under the variable's name whether or not the text converts -/
theorem applyGetEnv_scalar (env : Env) (o : Opt) (name : Str) (hne : getenv env name ≠ [])
    (hk : o.kind.isString = true ∨ o.kind.isInt = true ∨ o.kind.isFloat = true) :
    applyGetEnv ext env o name =
      match save ext false { o with envVar := name } [getenv env name] with
      | .ok o' => { o' with called := true, usedAlias := name }
      | .error _ => { o with envVar := name, called := true, usedAlias := name } := by
  unfold applyGetEnv
  simp only [List.isEmpty_eq_false_iff.mpr hne, Bool.false_eq_true, ↓reduceIte]
  cases hkind : o.kind <;> simp [hkind, Kind.isString, Kind.isInt, Kind.isFloat] at hk <;> rfl

/-- string (plain or optional value): the variable's text is the value -/
theorem env_string (env : Env) (o : Opt) (name : Str) (hk : o.kind.isString = true) (hne : getenv env name ≠ [])
    (hg : o.validValues = []) :
    applyGetEnv ext env o name =
      { o with envVar := name, value := .s (getenv env name), called := true, usedAlias := name } := by
  rw [applyGetEnv_scalar ext env o name hne (.inl hk),
    save_string ext false { o with envVar := name } _ hk (by simp [validGate, hg])]

/-- int (plain or optional value): valid text is converted; invalid text leaves the default
(the option is nevertheless marked called — observed behaviour, not contradicted by the property) -/
theorem env_int (env : Env) (o : Opt) (name : Str) (hk : o.kind.isInt = true) (hne : getenv env name ≠ [])
    (hg : o.validValues = []) :
    applyGetEnv ext env o name =
      match atoi (getenv env name) with
      | some n => { o with envVar := name, value := .i n, called := true, usedAlias := name }
      | none => { o with envVar := name, called := true, usedAlias := name } := by
  rw [applyGetEnv_scalar ext env o name hne (.inr (.inl hk)),
    save_int ext false { o with envVar := name } _ hk (by simp [validGate, hg])]
  cases atoi (getenv env name) <;> rfl

theorem env_float (env : Env) (o : Opt) (name : Str) (hk : o.kind.isFloat = true) (hne : getenv env name ≠ [])
    (hg : o.validValues = []) :
    applyGetEnv ext env o name =
      if ext.floatOk (getenv env name) then
        { o with envVar := name, value := .f (getenv env name), called := true, usedAlias := name }
      else { o with envVar := name, called := true, usedAlias := name } := by
  rw [applyGetEnv_scalar ext env o name hne (.inr (.inr hk)),
    save_float ext false { o with envVar := name } _ hk (by simp [validGate, hg])]
  cases ext.floatOk (getenv env name) <;> rfl

/-- the binding is a no-op for every other kind -/
theorem env_other (env : Env) (o : Opt) (name : Str)
    (hk : o.kind = .incr ∨ o.kind = .strs ∨ o.kind = .ints ∨ o.kind = .flts ∨ o.kind = .map) :
    applyGetEnv ext env o name = { o with envVar := name } := by
  unfold applyGetEnv
  rcases hk with h | h | h | h | h <;> simp [h] <;> intro _ <;> rfl

/-- **Command line wins.**  The value a scalar option reads after a command-line occurrence with
a value does not depend on what the environment put there before: `Save` overwrites. -/
theorem cli_overrides_env (lower : Bool) (o₁ o₂ : Opt) (v : Str)
    (hsame : { o₁ with value := o₂.value, called := o₂.called, usedAlias := o₂.usedAlias } = o₂)
    (hk : o₁.kind.isString = true ∨ o₁.kind.isInt = true ∨ o₁.kind.isFloat = true) :
    (save ext lower o₁ [v]).toOption.map (·.value) = (save ext lower o₂ [v]).toOption.map (·.value) := by
  have hkind : o₂.kind = o₁.kind := by rw [← hsame]
  have hg2 : validGate o₂ [v] = validGate o₁ [v] := by rw [← hsame]; rfl
  cases hg : validGate o₁ [v] with
  | false => rw [save_invalid ext lower o₁ v hg, save_invalid ext lower o₂ v (hg2.trans hg)]; rfl
  | true =>
    rcases hk with h | h | h
    · rw [save_string ext lower o₁ v h hg, save_string ext lower o₂ v (hkind ▸ h) (hg2.trans hg)]; rfl
    · rw [save_int ext lower o₁ v h hg, save_int ext lower o₂ v (hkind ▸ h) (hg2.trans hg)]
      cases atoi v <;> rfl
    · rw [save_float ext lower o₁ v h hg, save_float ext lower o₂ v (hkind ▸ h) (hg2.trans hg)]
      cases ext.floatOk v <;> rfl

/-! ## whole program: definition script, environment, command line -/

variable (mode : Mode)

/-- **What the parser starts from.**  In every accepted definition script, the record an option constructor
produced — the fresh record (declared default, not called) with its modifiers applied in call order, `GetEnv`
reading the environment at that moment — is still that option's record after the whole script: no later
(or earlier) definition call touches it. -/
theorem definition_record (env : Env) (root : Str) (pre post : List DefOp) (hd : Nat) (kind : Kind) (name : Str)
    (dflt : Val) (dstr : Str) (min max : Int) (mods : List Mod) (st : BState)
    (h : buildB ext env root (pre ++ [.opt hd kind name dflt dstr min max mods] ++ post) = .ok st) :
    ∃ mid, buildB ext env root pre = .ok mid ∧
      st.P.opt mid.P.opts.length = mods.foldl (modEffect ext env) (freshOpt kind name dflt dstr min max) :=
  defined_record_final ext env root pre post hd kind name dflt dstr min max mods st h

/-- **Environment over default, end to end.**  Program = any accepted script in which the option is declared with
`GetEnv(var)`; command line = anything that does not mention the option (at any level, by name, alias or
abbreviation).  After the whole parse the option record is exactly what `GetEnv` made of the declared record:
by `env_empty`/`env_bool`/`env_string`/`env_int`/`env_float` that is the declared default with `Called` false
when the variable is unset, empty or not valid text for the type, and otherwise the variable's value with
`Called` true and `CalledAs` the variable's name. -/
theorem env_or_default_after_parse (env : Env) (root : Str) (pre post : List DefOp) (hd : Nat) (kind : Kind)
    (name : Str) (dflt : Val) (dstr : Str) (min max : Int) (var : Str) (st : BState) (args : List Str)
    (h : buildB ext env root (pre ++ [.opt hd kind name dflt dstr min max [.getEnv var]] ++ post) = .ok st) :
    ∃ mid, buildB ext env root pre = .ok mid ∧
      (¬ Mentioned mode st.P args mid.P.opts.length →
        (parseArgs ext mode st.P args).P.opt mid.P.opts.length =
          applyGetEnv ext env (freshOpt kind name dflt dstr min max) var) := by
  obtain ⟨mid, h1, h2⟩ :=
    defined_record_after_parse ext env mode root pre post hd kind name dflt dstr min max [.getEnv var] st h
  exact ⟨mid, h1, h2 args⟩

/-- … instantiated for a string option: variable set ⇒ its text, `Called`, `CalledAs = var`; variable unset or
empty ⇒ the declared default, not called. -/
theorem env_string_after_parse (env : Env) (root : Str) (pre post : List DefOp) (hd : Nat) (kind : Kind)
    (name : Str) (d : Str) (dstr : Str) (min max : Int) (var : Str) (st : BState) (args : List Str)
    (hk : kind.isString = true)
    (h : buildB ext env root (pre ++ [.opt hd kind name (.s d) dstr min max [.getEnv var]] ++ post) = .ok st) :
    ∃ mid, buildB ext env root pre = .ok mid ∧
      (¬ Mentioned mode st.P args mid.P.opts.length →
        let o := (parseArgs ext mode st.P args).P.opt mid.P.opts.length
        (getenv env var ≠ [] → o.value = .s (getenv env var) ∧ o.called = true ∧ o.usedAlias = var) ∧
        (getenv env var = [] → o.value = .s d ∧ o.called = false)) := by
  obtain ⟨mid, h1, h2⟩ := env_or_default_after_parse ext mode env root pre post hd kind name (.s d) dstr min max var st args h
  refine ⟨mid, h1, fun hnm => ?_⟩
  have e := h2 hnm
  simp only
  rw [e]
  constructor
  · intro hne
    rw [env_string ext env _ var (by simpa [freshOpt] using hk) hne (by simp [freshOpt])]
    exact ⟨rfl, rfl, rfl⟩
  · intro he
    rw [env_empty ext env _ var he]
    exact ⟨rfl, rfl⟩

/-- **Command line over environment, end to end.**  Same program; the command line gives the option as
`--name=v` at a head position (resolved exactly, by alias or unique abbreviation) and does not mention it
afterwards: after the whole parse the option reads what `v` converts to, is called and `CalledAs` is the key
used — the record is the one `Save` makes from the *matched* record, and by `cli_overrides_env` its value does not
depend on what the environment had put there. -/
theorem cli_over_env_after_parse (P : Prog) (pre post : List Str) (name v key : Str) (oid : Nat)
    (he : (run ext mode P pre).err = none) (hc : (run ext mode P pre).ctx = .idle)
    (hn : name ≠ []) (hne : ∀ c ∈ name, c ≠ chEq) (hv : v ≠ [])
    (hr : resolve (P.node (run ext mode P pre).cur) name = [key])
    (hl : lookup key (P.node (run ext mode P pre).cur).opts = some oid)
    (hoid : oid < P.opts.length)
    (hk : (P.opt oid).kind.isString = true) (hvv : (P.opt oid).validValues = [])
    (hmax : (P.opt oid).max ≤ 1)
    (hpost : ¬ Mentioned mode P post oid) :
    let o := (parseArgs ext mode P (pre ++ (chDash :: chDash :: (name ++ chEq :: v)) :: post)).P.opt oid
    o.value = .s v ∧ o.called = true ∧ o.usedAlias = key := by
  have hkind := run_static ext mode P pre oid
  have hm : (matched (run ext mode P pre) oid key).kind.isString = true := by
    simp only [matched]; rw [hkind.1]; exact hk
  have hg : validGate (matched (run ext mode P pre) oid key) [v] = true := by
    simp [validGate, matched, hkind.2.1, hvv]
  have hs := save_string ext (P.node 0).mapKeysToLower (matched (run ext mode P pre) oid key) v hm hg
  have := attached_value_is_final ext mode P pre post name v key oid _ he hc hn hne hv hr hl hoid hs
    (by simp only [matched]; rw [hkind.2.2]; exact hmax) hpost
  simp only
  rw [this]
  exact ⟨rfl, rfl, rfl⟩

/-! Non-vacuity: default, environment, command line on a bound string and a bound bool. -/
def envScript : List DefOp := [
  .opt 0 .str (b "host") (.s (b "def")) [] 0 0 [.getEnv (b "HOST")],
  .opt 0 .bool (b "dbg") (.b false) [] 0 0 [.getEnv (b "DBG")],
  .opt 0 .int (b "port") (.i 80) [] 0 0 [.getEnv (b "PORT")] ]

def envProg (env : Env) : Prog := match build Demo.ext env (b "p") envScript with
  | .ok P => P
  | .error _ => { nodes := [], opts := [] }

example : ((parseArgs Demo.ext .normal (envProg []) []).P.opt 0).value = .s (b "def") ∧
          ((parseArgs Demo.ext .normal (envProg [(b "HOST", b "e")]) []).P.opt 0).value = .s (b "e") ∧
          ((parseArgs Demo.ext .normal (envProg [(b "HOST", b "e")]) []).P.opt 0).usedAlias = b "HOST" ∧
          ((parseArgs Demo.ext .normal (envProg [(b "HOST", b "e")]) [b "--host=c"]).P.opt 0).value = .s (b "c") ∧
          ((parseArgs Demo.ext .normal (envProg [(b "DBG", b "TrUe")]) []).P.opt 1).value = .b true ∧
          ((parseArgs Demo.ext .normal (envProg [(b "DBG", b "yes")]) []).P.opt 1).called = false ∧
          ((parseArgs Demo.ext .normal (envProg [(b "PORT", b "12x")]) []).P.opt 2).value = .i 80 ∧
          ((parseArgs Demo.ext .normal (envProg [(b "PORT", b "")]) []).P.opt 2).called = false := by decide +kernel

-- the hypotheses of the end-to-end theorems are met by this script (option 0 = `host`, bound to HOST)
example : ((buildB Demo.ext [(b "HOST", b "e")] (b "p")
    ([] ++ [.opt 0 .str (b "host") (.s (b "def")) [] 0 0 [.getEnv (b "HOST")]] ++ envScript.tail)).toOption.map
      (·.P.opts.length)) = some 3 := by decide +kernel

end GoModel
