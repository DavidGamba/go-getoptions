import Lemmas.Frame
import Lemmas.ParseUser
import Lemmas.Inherit
import Lemmas.BuildInv
import Lemmas.Demo
/-!
# C10 — dispatch runs exactly the addressed command once, with its options and arguments
-/
namespace GoModel

variable (ext : Ext) (mode : Mode)

/-- **Dispatch decision.**  When help was not requested and no required option is missing,
`Dispatch` does exactly one of: run the final node's own function once with the remaining arguments
(`ran`), or — when the node has no function — print landing help / report "no CommandFn" / print the
root help.  It never runs the function of any other node. -/
theorem dispatch_spec (s : PState) (rem : List Str)
    (hh : helpRequested s.P s.cur = false) (hr : checkRequired s.P s.cur = none)
    (hnh : (s.P.node s.cur).isHelp = false) :
    dispatch ext s rem =
      match (s.P.node s.cur).fn with
      | some f => .ran f s.cur rem
      | none =>
        if (s.P.node s.cur).parent.isSome then
          (if (s.P.node s.cur).cmds.length > 1 then .helpCalled (helpOutput ext s.P s.cur [])
           else .noCommandFn (s.P.node s.cur).name)
        else .rootHelp (helpOutput ext s.P s.cur []) := by
  unfold dispatch
  simp only [hh, hr, hnh, Bool.false_eq_true, ↓reduceIte]
  rfl

/-- whatever `Dispatch` runs is the function of the final node, called with the node reached by
`Parse` as its view and with the remaining arguments -/
theorem dispatch_ran (s : PState) (rem : List Str) (f n : Nat) (args : List Str)
    (h : dispatch ext s rem = .ran f n args) :
    (s.P.node s.cur).fn = some f ∧ n = s.cur ∧ args = rem :=
  dispatch_ran_inv ext s rem f n args h

/-! ## which tokens select a command -/

theorem drain_cur (ps : List Pair) (s : PState) : (drain ext s ps).cur = s.cur := by
  induction ps generalizing s with
  | nil => rfl
  | cons p ps ih =>
    have h1 := (procPair_cur_nodes ext { s with pending := ps } p).1
    rw [drain_cons]
    exact byCtx_ind (Q := fun r => r.cur = s.cur) (fun _ => h1) (fun _ _ => (ih _).trans h1) (fun _ _ _ _ => h1)
      (fun _ _ => h1) (fun _ _ => h1)

theorem drain_nodes (ps : List Pair) (s : PState) (n : Nat) : (drain ext s ps).P.node n = s.P.node n :=
  (drain_moves (L := fun _ => True) (comp := none) ext ps s fun _ _ => trivial).shape.node n

theorem afterConsume_cur (s : PState) (ps : List Pair) : (afterConsume ext s ps).cur = s.cur := by
  rw [afterConsume_eq]
  exact byCtx_ind (Q := fun r => r.cur = s.cur) (fun _ => rfl) (fun _ _ => drain_cur ext ps s) (fun _ _ _ _ => rfl)
    (fun _ _ => rfl) (fun _ _ => rfl)

/-- `r` still has the command selected in `s`, or the word `t` selected a child of it -/
def Selects (t : Str) (s r : PState) : Prop :=
  r.cur = s.cur ∨ (t ≠ dashdash ∧ (isOption t mode).2 = false ∧ lookup t (s.P.node s.cur).cmds = some r.cur)

variable {mode} in
theorem Selects.of_eq {t : Str} {s s2 r : PState} (h : Selects mode t s2 r) (hc : s2.cur = s.cur)
    (hn : ∀ n, s2.P.node n = s.P.node n) : Selects mode t s r := by
  unfold Selects at h ⊢
  rwa [hc, hn] at h

/-- what a head token can do to the selected command -/
theorem head_cur (s : PState) (t : Str) :
    (head ext mode none s t).cur = s.cur ∨
    (t ≠ dashdash ∧ (isOption t mode).2 = false ∧ lookup t (s.P.node s.cur).cmds = some (head ext mode none s t).cur) := by
  rw [head_eq]
  split
  · exact .inl (drain_cur ext _ _)
  · rename_i h
    unfold headOther
    cases hd : t == dashdash with
    | true => exact .inl rfl
    | false =>
      cases hc : lookup t (s.P.node s.cur).cmds with
      | some c => exact .inr ⟨ne_of_beq_false hd, Bool.eq_false_iff.mpr fun h2 => h ⟨rfl, hd, h2⟩, rfl⟩
      | none => cases (s.P.node s.cur).requireOrder <;> exact .inl rfl

theorem feedPending_cur (t : Str) (ps : List Pair) (s : PState) :
    (feedPending ext mode none t s ps).cur = s.cur ∨
    (t ≠ dashdash ∧ (isOption t mode).2 = false ∧
      lookup t (s.P.node s.cur).cmds = some (feedPending ext mode none t s ps).cur) := by
  induction ps generalizing s with
  | nil => unfold feedPending; exact head_cur ext mode { s with pending := [] } t
  | cons p ps ih =>
    have h1 := procPair_cur_nodes ext { s with pending := ps } p
    rw [feedPending_cons]
    generalize procPair ext { s with pending := ps } p = s1 at h1 ⊢
    refine byCtx_ind (Q := Selects mode t s) (fun _ => .inl h1.1) (fun _ _ => .of_eq (ih s1) h1.1 h1.2)
      (fun o i _ _ => ?_) (fun _ _ => .inl h1.1) (fun _ _ => .inl h1.1)
    have h2 := offer_cur_nodes ext mode s1 o i t
    split
    · rename_i s2 hoff; rw [hoff] at h2
      exact .inl ((afterConsume_cur ext _ _).trans (h2.1.trans h1.1))
    · rename_i s2 hoff; rw [hoff] at h2
      exact .of_eq (ih s2) (h2.1.trans h1.1) fun n => (h2.2 n).trans (h1.2 n)

/-- **A token selects a command only where a positional could stand.**  One step changes the
selected command only if the token is not `--`, does not look like an option, equals the name of a
child of the current command — and the parser is neither stopped (after `--` or the require-order
stop) nor is the token consumed as an option value. -/
theorem step_cur (s : PState) (t : Str) :
    (step ext mode s t).cur = s.cur ∨
    (s.ctx ≠ .stopped ∧ t ≠ dashdash ∧ (isOption t mode).2 = false ∧
      lookup t (s.P.node s.cur).cmds = some (step ext mode s t).cur) := by
  unfold step
  rw [stepG_eq]
  by_cases hs : s.ctx = .stopped
  · rw [byCtx_stopped hs]
    exact .inl (by split <;> rfl)
  · refine Or.imp_right (⟨hs, ·⟩) (?_ : Selects mode t s _)
    refine byCtx_ind (Q := Selects mode t s) (fun _ => .inl rfl) (fun _ _ => head_cur ext mode s t)
      (fun o i _ _ => ?_) (fun _ _ => .inl rfl) (fun _ _ => .inl rfl)
    have h2 := offer_cur_nodes ext mode s o i t
    split
    · rename_i s1 hoff; rw [hoff] at h2
      exact .inl ((afterConsume_cur ext _ _).trans h2.1)
    · rename_i s1 hoff; rw [hoff] at h2
      exact .of_eq (feedPending_cur ext mode t s1.pending s1) h2.1 h2.2

/-- a token consumed as an option value never selects a command -/
theorem consumed_value_keeps_command (s : PState) (o i : Nat) (t : Str) (hc : s.ctx = .collecting o i)
    (he : s.err = none) (hcons : (offer ext mode s o i t).2 = true) :
    (step ext mode s t).cur = s.cur := by
  have hpair : offer ext mode s o i t = ((offer ext mode s o i t).1, true) := by rw [← hcons]
  unfold step
  rw [stepG_eq, byCtx, he, hc]
  simp only [Option.isSome_none, Bool.false_eq_true, ↓reduceIte]
  rw [hpair]
  exact (afterConsume_cur ext _ _).trans (offer_cur_nodes ext mode s o i t).1

/-! Non-vacuity -/
example : dispatch Demo.ext (parseUser Demo.ext Demo.prog [b "--num=1", b "cmd", b "--force", b "a"]).st [b "a"] =
    .ran 1 1 [b "a"] := by decide +kernel
/-- a command name after `--` or as an option value does not select the command -/
example : (parseUser Demo.ext Demo.prog [b "--num=1", b "--name", b "cmd", b "--", b "cmd"]).st.cur = 0 := by decide +kernel

/-! ## Inherited options (definition layer) -/

/-- **A new command sees every option of its parent through the very same cells.**  For *every*
definition history accepted by the library (`buildB … = ok st`), calling `NewCommand(name, …)` on a
command `p` yields a command whose option table resolves every key exactly as `p`'s table does at
that moment — same key, same option id, i.e. the same storage cell that parsing writes and that
`Value`/`Called` read — so a value parsed at the command's level, or at any ancestor's, is what the
command's function sees.  (The help command is the documented exception: nothing is copied into it.)
The proof needs the invariants of the definition layer (`Lemmas/BuildInv.lean`: the command tables
form a tree, every table has distinct keys, every handle is a node), which hold after every history. -/
theorem view_inherits (env : Env) (root : Str) (script : List DefOp) (st st' : BState)
    (h : Nat) (name desc : Str) (p : Nat)
    (hb : buildB ext env root script = .ok st)
    (hp : st.handles[h]? = some p)
    (hname : (name == (st.P.node p).helpName) = false)
    (hs : buildStep ext env st (.cmd h name desc) = .ok st') (k : Str) :
    lookup k (st'.P.node st.P.nodes.length).opts = lookup k (st.P.node p).opts := by
  have inv := buildB_inv ext env root script st hb
  obtain ⟨p', hp', -, rfl⟩ := buildStep_cmd_ok hs
  cases hp.symm.trans hp'
  exact new_command_table st.P p _ (inv.handles h p hp) inv.prog.tree rfl rfl rfl hname (inv.prog.keys p) k

/-- the invariants themselves, for every accepted definition history -/
theorem definitions_well_formed (env : Env) (root : Str) (script : List DefOp) (st : BState)
    (hb : buildB ext env root script = .ok st) :
    TreeWF st.P ∧ KInv st.P ∧ ∀ (h p : Nat), st.handles[h]? = some p → p < st.P.nodes.length :=
  let i := buildB_inv ext env root script st hb
  ⟨i.prog.tree, i.prog.keys, i.handles⟩

/-! ## following the command-name tokens -/

/-- the chain of nodes selected by a list of command words, starting at node `n` -/
def follows (P : Prog) : Nat → List Str → Option Nat
  | n, [] => some n
  | n, w :: ws =>
    match lookup w (P.node n).cmds with
    | some c => follows P c ws
    | none => none

/-- one command word at a head position selects that child and nothing else happens -/
theorem step_command_word (s : PState) (w : Str) (c : Nat)
    (he : s.err = none) (hc : s.ctx = .idle) (hd : w ≠ dashdash) (hno : (isOption w mode).2 = false)
    (hl : lookup w (s.P.node s.cur).cmds = some c) :
    step ext mode s w = { s with cur := c, textStart := s.rem.length } := by
  rw [step_word ext mode s w he hc hd hno, hl]

/-- **The deepest command reached by following the command-name tokens is the one addressed.**  From a head
position, a run of words each of which is the registered name of a sub-command of the level reached so far
(and is neither `--` nor option-looking) moves the selected command down that chain — and changes nothing else:
no option, no remaining text, no unknown option, no error. -/
theorem command_words_select (words : List Str) (s : PState) (target : Nat)
    (he : s.err = none) (hc : s.ctx = .idle)
    (hw : ∀ w ∈ words, w ≠ dashdash ∧ (isOption w mode).2 = false)
    (hf : follows s.P s.cur words = some target) :
    let r := words.foldl (step ext mode) s
    r.cur = target ∧ r.P = s.P ∧ r.rem = s.rem ∧ r.unk = s.unk ∧ r.err = none ∧ r.ctx = .idle := by
  induction words generalizing s with
  | nil => simp only [follows, Option.some.injEq] at hf; exact ⟨hf, rfl, rfl, rfl, he, hc⟩
  | cons w ws ih =>
    simp only [follows] at hf
    cases hl : lookup w (s.P.node s.cur).cmds with
    | none => simp [hl] at hf
    | some c =>
      simp only [hl] at hf
      have h1 := step_command_word ext mode s w c he hc (hw w (by simp)).1 (hw w (by simp)).2 hl
      simp only [List.foldl_cons, h1]
      exact ih { s with cur := c, textStart := s.rem.length } he hc (fun x hx => hw x (by simp [hx])) hf

/-- … and `Dispatch` then runs exactly that command's function, once, with the remaining arguments and that
command as the view (`dispatch_spec`): the whole command line `c₁ c₂ … cₖ` on a program where help is not
requested and no required option is missing. -/
theorem command_line_dispatches (P : Prog) (words : List Str) (target f : Nat)
    (hw : ∀ w ∈ words, w ≠ dashdash ∧ (isOption w mode).2 = false)
    (hf : follows P 0 words = some target)
    (hfn : (P.node target).fn = some f) (hnh : (P.node target).isHelp = false)
    (hh : helpRequested P target = false) (hr : checkRequired P target = none) :
    dispatch ext (parseArgs ext mode P words) [] = .ran f target [] := by
  obtain ⟨h1, h2, -, -, h5, h6⟩ := command_words_select ext mode words (initState P) target rfl rfl hw hf
  rw [parseArgs, run, finish_eq, byCtx_idle h5 h6]
  have h2' : (words.foldl (step ext mode) (initState P)).P = P := h2
  unfold dispatch
  simp only [h1, h2', hh, hr, hfn, hnh, Bool.false_eq_true, ↓reduceIte]

-- `cmd` on the demo program: its function (id 1) runs, with the command as the view
example : follows Demo.prog 0 [b "cmd"] = some 1 ∧
    dispatch Demo.ext (parseArgs Demo.ext .normal Demo.prog [b "cmd"]) [] = .ran 1 1 [] := by decide +kernel

/-- on the demo program: the command `cmd` resolves the root's `num`, `n` and `verbose` to the
root's own cells, and a value given after the command name is seen through the root's table -/
example :
    lookup (b "num") (Demo.prog.node 1).opts = lookup (b "num") (Demo.prog.node 0).opts ∧
    lookup (b "n") (Demo.prog.node 1).opts = lookup (b "n") (Demo.prog.node 0).opts ∧
    ((parseUser Demo.ext Demo.prog [b "cmd", b "--num=7"]).st.P.opt 4).value = .i 7 := by decide +kernel

end GoModel
