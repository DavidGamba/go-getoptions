import Lemmas.Conserve
import Lemmas.Frame
import Lemmas.Demo
import Lemmas.ParseUser
/-!
# C03 — remaining arguments are conserved: nothing lost, invented, altered or duplicated
-/
namespace GoModel

variable (ext : Ext) (mode : Mode)

/-- Whenever `Parse` succeeds, the remaining list is a positional sublist of the arguments: every
element is an input token, byte for byte, in the original relative order, and no input position is
used twice — for every program, every mode, every unknown-mode, with or without require-order. -/
theorem remaining_sublist (P : Prog) (args rem : List Str)
    (h : (parseUser ext P args).remaining = some rem) : rem.Sublist args := by
  rcases parseUser_cases ext P args with ⟨_, _, h0⟩ | ⟨_, hr, he, _⟩
  · rw [h0] at h; cases h
  · cases hr.symm.trans h; exact parseArgs_rem_sublist ext _ P args he

/-- the arguments handed to the dispatched command function are exactly what `Parse` returned -/
theorem dispatch_passes_remaining (s : PState) (rem : List Str) (f n : Nat) (args : List Str)
    (h : dispatch ext s rem = .ran f n args) : args = rem :=
  (dispatch_ran_inv ext s rem f n args h).2.2

/-- Pass / Warn mode: a token with an unknown option is in the remaining list, verbatim, as soon as
the unknown pair has been processed (and it stays: the list only grows). -/
theorem unknown_passthrough (s : PState) (p : Pair)
    (hr : resolve (s.P.node s.cur) p.opt = []) (hu : (s.P.node s.cur).umode ≠ .fail)
    (hinv : s.passed = true → s.tok ∈ s.rem) :
    s.tok ∈ (procPair ext s p).rem := by
  cases hro : (s.P.node s.cur).requireOrder with
  | true => rw [procPair_unknown_ro ext s p hr hro]; simp [PState.addText]
  | false =>
    rw [procPair_unknown ext s p hr hro]
    cases hp : s.passed with
    | true => simp [hinv hp]
    | false => simp [hu]

/-- the remaining list only grows: a token once kept is never removed or changed -/
theorem step_rem_prefix (s : PState) (t : Str) : ∃ more, (step ext mode s t).rem = s.rem ++ more :=
  let ⟨m, h⟩ := (step_moves' ext mode s t).rem_prefix
  ⟨m, h.symm⟩

/-- one step: an option token at a head position whose single pair is not declared at the level (unknown-mode of the
level not `fail`) is appended to the remaining list, with or without require-order -/
theorem step_unknown_kept (s : PState) (t : Str) (p : Pair) (he : s.err = none) (hc : s.ctx = .idle)
    (hopt : isOption t mode = ([p], true)) (hr : resolve (s.P.node s.cur) p.opt = [])
    (hu : (s.P.node s.cur).umode ≠ .fail) :
    (step ext mode s t).rem = s.rem ++ [t] := by
  rw [step_single ext mode s t p he hc hopt]
  cases hro : (s.P.node s.cur).requireOrder with
  | true => rw [procPair_unknown_ro ext { headState s t with pending := [] } p hr hro]; rfl
  | false =>
    have hum : ((s.P.node s.cur).umode != UMode.fail) = true := by simpa using hu
    rw [procPair_unknown ext { headState s t with pending := [] } p hr hro]
    simp [headState, hum]

/-- **Whole command line, Pass / Warn mode**: an option token given where an option may start, whose
name is not declared at that level (unknown-mode of the level not `fail`), is in the remaining list of
the *finished* parse, verbatim and at its original position relative to everything kept before it —
whatever comes before and after it. -/
theorem unknown_token_kept (P : Prog) (pre post : List Str) (t : Str) (p : Pair)
    (he : (run ext mode P pre).err = none) (hc : (run ext mode P pre).ctx = .idle)
    (hopt : isOption t mode = ([p], true))
    (hr : resolve ((run ext mode P pre).P.node (run ext mode P pre).cur) p.opt = [])
    (hu : ((run ext mode P pre).P.node (run ext mode P pre).cur).umode ≠ .fail) :
    ∃ more, (parseArgs ext mode P (pre ++ t :: post)).rem = (run ext mode P pre).rem ++ t :: more :=
  parseArgs_rem_kept ext mode P pre post t t (step_unknown_kept ext mode _ t p he hc hopt hr hu)

/-- one step at a head position with a plain word: the word is appended, verbatim, and nothing else of the
remaining list changes (with require-order the parser also stops) -/
theorem step_text_kept (s : PState) (t : Str) (he : s.err = none) (hc : s.ctx = .idle)
    (hd : t ≠ dashdash) (hno : (isOption t mode).2 = false)
    (hcmd : lookup t (s.P.node s.cur).cmds = none) :
    (step ext mode s t).rem = s.rem ++ [t] ∧ (step ext mode s t).P = s.P ∧ (step ext mode s t).cur = s.cur ∧
      (step ext mode s t).err = none := by
  rw [step_word ext mode s t he hc hd hno, hcmd]
  dsimp only
  split <;> exact ⟨rfl, rfl, rfl, he⟩

/-- **Whole command line: a positional word is never lost.**  A token given where an option may start that is
not `--`, not option-looking in the mode and not the name of a sub-command of the level reached is in the
remaining list of the finished parse, verbatim, right after everything kept before it — whatever comes before
and after it, in every mode, with or without require-order. -/
theorem positional_token_kept (P : Prog) (pre post : List Str) (t : Str)
    (he : (run ext mode P pre).err = none) (hc : (run ext mode P pre).ctx = .idle)
    (hd : t ≠ dashdash) (hno : (isOption t mode).2 = false)
    (hcmd : lookup t ((run ext mode P pre).P.node (run ext mode P pre).cur).cmds = none) :
    ∃ more, (parseArgs ext mode P (pre ++ t :: post)).rem = (run ext mode P pre).rem ++ t :: more :=
  parseArgs_rem_kept ext mode P pre post t t (step_text_kept ext mode _ t he hc hd hno hcmd).1

/-- a sub-command name at a head position is consumed: it does not enter the remaining list -/
theorem command_word_consumed (s : PState) (t : Str) (c : Nat) (he : s.err = none) (hc : s.ctx = .idle)
    (hd : t ≠ dashdash) (hno : (isOption t mode).2 = false)
    (hcmd : lookup t (s.P.node s.cur).cmds = some c) :
    (step ext mode s t).rem = s.rem ∧ (step ext mode s t).cur = c := by
  rw [step_word ext mode s t he hc hd hno, hcmd]; exact ⟨rfl, rfl⟩

/-- a `--` reached at a head position is dropped -/
theorem dashdash_dropped (s : PState) (he : s.err = none) (hc : s.ctx = .idle) :
    (step ext mode s dashdash).rem = s.rem := by
  rw [step_dashdash_head ext mode s he hc]

/-- a token taken as the value of the open occurrence is consumed: the remaining list keeps only what the
pairs still pending of the *previous* token add (nothing when there are none) -/
theorem value_token_consumed (s : PState) (o i : Nat) (t : Str) (s1 : PState) (he : s.err = none)
    (hc : s.ctx = .collecting o i) (hp : s.pending = []) (hoff : offer ext mode s o i t = (s1, true)) :
    (step ext mode s t).rem = s.rem := by
  obtain ⟨P', l, e, c, heq, -, -⟩ := offer_frame ext mode s o i t
  rw [step_collecting ext mode s o i t he hc hp, hoff]
  rw [hoff] at heq
  show s1.rem = s.rem
  rw [show s1 = _ from heq]

/-! Non-vacuity on concrete runs. -/

/-- Bundling + Pass, `x -vQW y` with only `v` known: the token is passed through exactly once -/
example :
    let P := Demo.prog.modNode 0 fun n => { n with umode := .pass, mode := .bundling }
    (parseUser Demo.ext P [b "x", b "-vQW", b "y", b "--num", b "1"]).remaining = some [b "x", b "-vQW", b "y"] := by
  decide +kernel

/-- text and unknown options given before a command name are kept, in order -/
example :
    let P := Demo.prog.modNode 0 fun n => { n with umode := .pass }
    (parseUser Demo.ext P [b "foo", b "--unk", b "--num=1", b "cmd", b "bar"]).remaining =
      some [b "foo", b "--unk", b "bar"] := by
  decide +kernel

end GoModel
