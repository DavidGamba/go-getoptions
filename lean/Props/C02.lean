import Model.Define
import Lemmas.Collect
import Lemmas.Split
import Lemmas.Lookup
import Lemmas.Demo
/-!
# C02 — multi-value options consume the right tokens and keep every value in order
-/
namespace GoModel

variable (ext : Ext) (mode : Mode)

/-! ## how many tokens an occurrence takes -/

/-- Beyond the minimum an occurrence takes the next token exactly when it does not look like an
option, is not `--`, and is well-formed for the element type; otherwise the occurrence is closed and
the token is interpreted normally. -/
theorem offer_greedy_consumes_iff (s : PState) (o i : Nat) (t : Str) (hmin : ¬ (i : Int) < (s.P.opt o).min) :
    (offer ext mode s o i t).2 = true ↔
      (looksLikeOption t mode = false ∧ t ≠ dashdash ∧ typeOk ext (s.P.opt o).kind t = true) := by
  -- the test of the greedy loop is the negation of the right side
  have hb : ∀ a c d : Bool, (a || c || !d) = true ↔ ¬ (a = false ∧ c = false ∧ d = true) := by decide
  rw [offer_eq, if_neg hmin, ← beq_eq_false_iff_ne]
  split
  · exact ⟨fun h => (nomatch h), fun h => absurd h ((hb _ _ _).mp ‹_›)⟩
  · exact ⟨fun _ => Classical.not_not.mp (mt (hb _ _ _).mpr ‹_›), fun _ => rfl⟩

/-- the lookahead per element type (api.go greedy loop) -/
theorem typeOk_spec (k : Kind) (t : Str) :
    typeOk ext k t =
      match k with
      | .ints => (atoi t).isSome
      | .flts => ext.floatOk t
      | .map => containsByte t chEq
      | _ => true :=
  rfl

/-- an occurrence never holds more than `max` arguments: it stays open only below `max` -/
theorem offer_below_max (s : PState) (o i : Nat) (t : Str) (i' : Nat)
    (h : (offer ext mode s o i t).1.ctx = .collecting o i') (hs : s.ctx = .collecting o i) (hi : (i : Int) < (s.P.opt o).max)
    (hmax : ∀ o', save ext (s.P.node 0).mapKeysToLower (s.P.opt o) [t] = .ok o' → o'.max = (s.P.opt o).max) :
    (i' : Int) < (s.P.opt o).max := by
  -- the new context is the old one (`i' = i`), or idle, or the new count, which is set only below `o'.max`
  have hsp := offer_spec ext mode s o i t
  generalize offer ext mode s o i t = r at hsp h
  cases hsp with
  | dashArg | saveErr => cases hs.symm.trans h; exact hi
  | refused => cases h
  | saved o' hsv =>
    dsimp only at h
    split at h
    · cases h; rw [← hmax o' hsv]; assumption
    · cases h

/-- too few arguments at the end of the input is always an error, never a silently short list -/
theorem finish_missing (s : PState) (o i : Nat) (he : s.err = none) (hc : s.ctx = .collecting o i)
    (hmin : (i : Int) < (s.P.opt o).min) :
    (finish ext s).err = some (.missingArg (s.P.opt o).usedAlias) := by
  rw [finish_eq, byCtx_collecting he hc, if_pos hmin]
  rfl

/-! ## the values are kept, in order -/

theorem save_strs (lower : Bool) (o : Opt) (old args : List Str) (hk : o.kind = .strs) (hv : o.value = .ss old)
    (ha : args ≠ []) (hg : validGate o args = true) :
    save ext lower o args = .ok { o with value := .ss (old ++ args) } := by
  cases args with
  | nil => exact absurd rfl ha
  | cons a r => simp [save, hk, hv, hg]

theorem save_flts (lower : Bool) (o : Opt) (old args : List Str) (hk : o.kind = .flts) (hv : o.value = .fs old)
    (ha : args ≠ []) (hg : validGate o args = true) (hok : ∀ a ∈ args, ext.floatOk a = true) :
    save ext lower o args = .ok { o with value := .fs (old ++ args) } := by
  have hconv : ∀ l : List Str, (∀ a ∈ l, ext.floatOk a = true) → convFloatArgs ext o.usedAlias l = .ok l := by
    intro l
    induction l with
    | nil => intro _; rfl
    | cons a r ih =>
      intro h
      simp only [convFloatArgs, h a (by simp), ↓reduceIte]
      rw [ih (fun x hx => h x (by simp [hx]))]
      rfl
  cases args with
  | nil => exact absurd rfl ha
  | cons a r =>
    simp only [save, hg, Bool.not_true, Bool.false_eq_true, ↓reduceIte, hk, hv]
    rw [hconv (a :: r) hok]
    rfl

/-- a float element that does not convert is an error (in a mandatory or attached position) -/
theorem save_flts_bad (lower : Bool) (o : Opt) (old : List Str) (a : Str) (hk : o.kind = .flts) (hv : o.value = .fs old)
    (hg : validGate o [a] = true) (hbad : ext.floatOk a = false) :
    save ext lower o [a] = .error (.convFloat o.usedAlias a) := by
  simp [save, hk, hv, hg, convFloatArgs, hbad, bind, Except.bind]

theorem save_ints_one (lower : Bool) (o : Opt) (old : List Int) (a : Str) (hk : o.kind = .ints) (hv : o.value = .is old)
    (hg : validGate o [a] = true) :
    save ext lower o [a] =
      match convIntArg o.usedAlias a with
      | .ok l => .ok { o with value := .is (old ++ l) }
      | .error e => .error e := by
  simp only [save, hg, Bool.not_true, Bool.false_eq_true, ↓reduceIte, hk, hv, convIntArgs]
  cases convIntArg o.usedAlias a with
  | error e => rfl
  | ok l => simp [bind, Except.bind, pure, Except.pure]

/-- `a..b` with `a < b` expands to `a, a+1, …, b`: `b - a + 1` elements, the k-th being `a + k` -/
theorem intRange_spec (a c : Int) (h : a < c) :
    (intRange a c).length = (c - a).toNat + 1 ∧
    (∀ k, k < (intRange a c).length → (intRange a c)[k]? = some (a + k)) ∧
    (intRange a c).head? = some a ∧ (intRange a c).getLast? = some c := by
  unfold intRange
  refine ⟨by simp, ?_, ?_, ?_⟩
  · intro k hk
    simp at hk
    simp [List.getElem?_map, List.getElem?_range hk]
  · simp [List.head?_map, List.head?_range]
  · rw [List.getLast?_eq_getElem?]
    simp
    omega

theorem convIntArg_range (alias n1 n2 : Str) (i1 i2 : Int)
    (e : Str) (he : splitDotDot e = some (n1, n2)) (h1 : atoi n1 = some i1) (h2 : atoi n2 = some i2) :
    convIntArg alias e = if i1 < i2 then .ok (intRange i1 i2) else .error (.convInt alias e) := by
  simp [convIntArg, he, h1, h2]

/-! ## maps: key before the first `=`, value everything after it, last write wins -/

/-- splitting at the first `=`: `splitFirst '=' (k ++ '=' :: v) = (k, some v)` for `=`-free `k`;
`v` may contain further `=` -/
theorem splitFirst_eq (k v : Str) (hk : ∀ c ∈ k, c ≠ chEq) : splitFirst chEq (k ++ chEq :: v) = (k, some v) := by
  induction k with
  | nil => simp [splitFirst]
  | cons c r ih =>
    have hc : (c == chEq) = false := by simpa using hk c (by simp)
    simp [splitFirst, hc, ih (fun x hx => hk x (by simp [hx]))]

theorem splitFirst_none (e : Str) (h : ∀ c ∈ e, c ≠ chEq) : splitFirst chEq e = (e, none) := by
  induction e with
  | nil => simp [splitFirst]
  | cons c r ih =>
    have hc : (c == chEq) = false := by simpa using h c (by simp)
    simp [splitFirst, hc, ih (fun x hx => h x (by simp [hx]))]

theorem save_map_step (lower : Bool) (o : Opt) (old : List (Str × Str)) (e k v : Str)
    (hk : o.kind = .map) (hv : o.value = .m old) (hg : validGate o [e] = true)
    (hsp : splitFirst chEq e = (k, some v)) :
    save ext lower o [e] = .ok { o with value := .m (insertKV (if lower then ext.toLower k else k) v old) } := by
  simp [save, hk, hv, hg, saveMapArgs, hsp, bind, Except.bind, pure, Except.pure]

/-- one `key=value` argument of a map option -/
theorem save_map_one (lower : Bool) (o : Opt) (old : List (Str × Str)) (k v : Str)
    (hk : o.kind = .map) (hv : o.value = .m old) (hg : validGate o [k ++ chEq :: v] = true)
    (hkey : ∀ c ∈ k, c ≠ chEq) :
    save ext lower o [k ++ chEq :: v] =
      .ok { o with value := .m (insertKV (if lower then ext.toLower k else k) v old) } :=
  save_map_step ext lower o old _ k v hk hv hg (splitFirst_eq k v hkey)

theorem save_map_bad (lower : Bool) (o : Opt) (old : List (Str × Str)) (e : Str)
    (hk : o.kind = .map) (hv : o.value = .m old) (hg : validGate o [e] = true) (hno : ∀ c ∈ e, c ≠ chEq) :
    save ext lower o [e] = .error (.notKeyValue o.usedAlias) := by
  simp [save, hk, hv, hg, saveMapArgs, splitFirst_none e hno, bind, Except.bind]

/-! ## definition-time validation of (min, max) -/

theorem minmax_definition (P : Prog) (n : Nat) (key : Str) (oid : Nat) (hkey : key ≠ [])
    (hfree : lookup key (P.node n).opts = none) (hrep : (P.opt oid).kind.isRepeat = true) :
    (∃ P', addChildOption P n key oid = .ok P') ↔
      ¬ ((P.opt oid).min ≤ 0 ∨ (P.opt oid).max ≤ 0 ∨ (P.opt oid).max < (P.opt oid).min) := by
  unfold addChildOption
  have h1 : key.isEmpty = false := by cases key <;> simp_all
  simp only [h1, hfree, Option.isSome_none, Bool.false_eq_true, ↓reduceIte, hrep, Bool.true_and]
  by_cases h : (decide ((P.opt oid).min ≤ 0) || decide ((P.opt oid).max ≤ 0) || decide ((P.opt oid).max < (P.opt oid).min)) = true
  · simp only [h, ↓reduceIte]
    simp at h
    constructor
    · rintro ⟨P', hP⟩; simp at hP
    · intro hn; exact absurd (by rcases h with (h | h) | h <;> simp [h]) hn
  · simp only [h]
    simp at h
    constructor
    · intro _; omega
    · intro _; exact ⟨_, rfl⟩

/-! ## whole command line: the values of an occurrence, in order -/

/-- `Save` of a string slice appends -/
theorem saveAll_strs (lower : Bool) (vs : List Str) (o : Opt) (old : List Str)
    (hk : o.kind = .strs) (hv : o.value = .ss old) (hg : o.validValues = []) :
    saveAll ext lower o vs = .ok { o with value := .ss (old ++ vs) } := by
  induction vs generalizing o old with
  | nil => simp [saveAll, ← hv]
  | cons v r ih =>
    have h1 : save ext lower o [v] = .ok { o with value := .ss (old ++ [v]) } :=
      save_strs ext lower o old [v] hk hv (List.cons_ne_nil _ _) (by simp [validGate, hg])
    simp only [saveAll, h1]
    rw [ih { o with value := .ss (old ++ [v]) } (old ++ [v]) hk rfl hg]
    simp

/-- `Save` of a float slice, one value after another, appends the texts that convert -/
theorem saveAll_flts (lower : Bool) (vs : List Str) (o : Opt) (old : List Str)
    (hk : o.kind = .flts) (hv : o.value = .fs old) (hg : o.validValues = [])
    (hok : ∀ v ∈ vs, ext.floatOk v = true) :
    saveAll ext lower o vs = .ok { o with value := .fs (old ++ vs) } := by
  induction vs generalizing o old with
  | nil => simp [saveAll, ← hv]
  | cons v r ih =>
    have h1 : save ext lower o [v] = .ok { o with value := .fs (old ++ [v]) } :=
      save_flts ext lower o old [v] hk hv (by simp) (by simp [validGate, hg]) (fun a ha => by
        have : a = v := by simpa using ha
        subst this; exact hok a (by simp))
    simp only [saveAll, h1]
    rw [ih { o with value := .fs (old ++ [v]) } (old ++ [v]) hk rfl hg (fun a ha => hok a (by simp [ha]))]
    simp

/-- the numbers an int-slice occurrence contributes: each value is a number or an ascending range -/
def intsOf : List Str → Option (List Int)
  | [] => some []
  | v :: r =>
    match convIntArg [] v, intsOf r with
    | .ok l, some rest => some (l ++ rest)
    | _, _ => none

/-- the alias occurs in the error value only -/
theorem convIntArg_ok_alias (u u' e : Str) (l : List Int) (h : convIntArg u e = .ok l) : convIntArg u' e = .ok l :=
  (h ▸ convIntArg_rel u u' e).ok_left

/-- `Save` of an int slice, one value after another, appends the numbers and expanded ranges in order -/
theorem saveAll_ints (lower : Bool) (vs : List Str) (o : Opt) (old nums : List Int)
    (hk : o.kind = .ints) (hv : o.value = .is old) (hg : o.validValues = [])
    (hn : intsOf vs = some nums) :
    saveAll ext lower o vs = .ok { o with value := .is (old ++ nums) } := by
  induction vs generalizing o old nums with
  | nil => simp only [intsOf, Option.some.injEq] at hn; subst hn; simp [saveAll, ← hv]
  | cons v r ih =>
    simp only [intsOf] at hn
    cases hc : convIntArg [] v with
    | error e => rw [hc] at hn; simp at hn
    | ok l =>
      cases hr : intsOf r with
      | none => rw [hc, hr] at hn; simp at hn
      | some rest =>
        rw [hc, hr] at hn
        simp only [Option.some.injEq] at hn
        subst hn
        have h1 : save ext lower o [v] = .ok { o with value := .is (old ++ l) } := by
          rw [save_ints_one ext lower o old v hk hv (by simp [validGate, hg]),
            convIntArg_ok_alias [] o.usedAlias v l hc]
        simp only [saveAll, h1]
        rw [ih { o with value := .is (old ++ l) } (old ++ l) rest hk rfl hg hr]
        simp

/-- `Save` of a map, one `key=value` after another, is the fold of the whole list: later keys overwrite earlier
ones, keys are lower-cased when the flag says so -/
theorem saveAll_map (lower : Bool) (vs : List Str) (o : Opt) (old m' : List (Str × Str))
    (hk : o.kind = .map) (hv : o.value = .m old) (hg : o.validValues = [])
    (hm : saveMapArgs ext lower o.usedAlias old vs = .ok m') :
    saveAll ext lower o vs = .ok { o with value := .m m' } := by
  induction vs generalizing o old with
  | nil => simp only [saveMapArgs, Except.ok.injEq] at hm; subst hm; simp [saveAll, ← hv]
  | cons e r ih =>
    simp only [saveMapArgs] at hm
    split at hm
    · rename_i k v hsp
      have h1 := save_map_step ext lower o old e k v hk hv (by simp [validGate, hg]) hsp
      simp only [saveAll, h1]
      rw [ih { o with value := .m (insertKV (if lower then ext.toLower k else k) v old) } _ hk rfl hg hm]
    · cases hm

example : intsOf [b "1", b "3..5", b "-2"] = some [1, 3, 4, 5, -2] := by decide

/-- **From the head position on.**  `t` is read as the single pair `p`, which resolves to option `oid`; what it has
attached (nothing, or one value) is saved first (`o1`), then `vs` follow: `occurrence_from_open` with `p.args.length`
values already there. -/
theorem occurrence_from_head (P : Prog) (pre post vs : List Str) (t : Str) (p : Pair) (key : Str) (oid : Nat) (o1 o' : Opt)
    (he : (run ext mode P pre).err = none) (hc : (run ext mode P pre).ctx = .idle)
    (hopt : isOption t mode = ([p], true))
    (hr : resolve (P.node (run ext mode P pre).cur) p.opt = [key])
    (hl : lookup key (P.node (run ext mode P pre).cur).opts = some oid)
    (hoid : oid < P.opts.length) (hvs : vs ≠ [])
    (hroom : ((p.args.length + vs.length : Nat) : Int) ≤ (P.opt oid).max)
    (hmin : (P.opt oid).min ≤ ((p.args.length + vs.length : Nat) : Int))
    (hacc : AllAcceptable ext mode (P.opt oid) p.args.length vs)
    (hs0 : save ext (P.node 0).mapKeysToLower (matched (run ext mode P pre) oid key) p.args = .ok o1)
    (hs : saveAll ext (P.node 0).mapKeysToLower o1 vs = .ok o')
    (hend : ((p.args.length + vs.length : Nat) : Int) = (P.opt oid).max ∨ post = [] ∨
      ∃ t rest, post = t :: rest ∧ (looksLikeOption t mode = true ∨ t = dashdash))
    (hpost : ¬ Mentioned mode P post oid) :
    (parseArgs ext mode P (pre ++ t :: (vs ++ post))).P.opt oid = o' := by
  have hsh := run_shape ext mode P pre
  have hst := run_static_eq ext mode P pre oid
  rw [parseArgs_cons]
  generalize run ext mode P pre = s at he hc hr hl hs0 hsh hst
  rw [← hsh.node] at hr hl hs0
  have hoid' : oid < s.P.opts.length := by rw [hsh.2]; exact hoid
  have hst1 : o1.static = (P.opt oid).static :=
    (save_static ext _ _ _ _ hs0).trans ((matched_static s oid key).trans hst)
  have hlen : 0 < vs.length := List.length_pos_iff.mpr hvs
  rw [step_single_ok ext mode s t p key oid o1 he hc hopt hr hl hs0, if_pos (by rw [static_max hst1]; omega)]
  exact occurrence_from_open ext mode P _ vs post oid p.args.length o1 o' hsh.node he rfl rfl
    (by rw [Prog.setOpt, List.length_set]; exact hoid') (opt_setOpt_same s.P oid _ hoid') hst1 hvs
    hroom hmin hacc hs hend hpost

/-- **The values of one occurrence reach the option in command-line order, whatever surrounds it.**
`argv = pre ++ [t, v₁, …, vₖ] ++ post`: the parser is at a head position after `pre`; `t` is whatever the splitter reads, in the
mode at hand, as the single pair `(name, no attached value)` — `--name`, `-n` in any of the three modes, an alias, a unique
abbreviation; `name` resolves
(exactly, by alias or unique abbreviation) to the slice or map option `oid`; `min ≤ k ≤ max`; every `vᵢ` is
acceptable to the occurrence (not option-looking; beyond the minimum also not `--` and well-formed for the
element type); the occurrence ends where the property says it does — at its maximum, at the end of the command
line, or at a token that looks like an option or is `--`; and `post` does not mention the option.  Then after
the **whole** parse the option record is exactly the one obtained by saving `v₁ … vₖ`, one after another, onto
what `pre` had left (`saveAll`): earlier occurrences' values first, then these, nothing lost, reordered or taken
from `post`.
(With `bundling_rewrite_parse` of C07 this also covers a value-taking letter at the end of a bundle: `-abn v₁ v₂` is
`-a -b -n v₁ v₂`.) -/
theorem occurrence_values_in_order_tok (P : Prog) (pre post vs : List Str) (t name key : Str) (oid : Nat) (o' : Opt)
    (he : (run ext mode P pre).err = none) (hc : (run ext mode P pre).ctx = .idle)
    (hopt : isOption t mode = ([⟨name, []⟩], true))
    (hr : resolve (P.node (run ext mode P pre).cur) name = [key])
    (hl : lookup key (P.node (run ext mode P pre).cur).opts = some oid)
    (hoid : oid < P.opts.length)
    (hkind : (P.opt oid).kind ≠ .bool) (hkind2 : (P.opt oid).kind ≠ .incr)
    (hvs : vs ≠ [])
    (hroom : (vs.length : Int) ≤ (P.opt oid).max) (hmin : (P.opt oid).min ≤ vs.length)
    (hacc : AllAcceptable ext mode (P.opt oid) 0 vs)
    (hs : saveAll ext (P.node 0).mapKeysToLower (matched (run ext mode P pre) oid key) vs = .ok o')
    (hend : (vs.length : Int) = (P.opt oid).max ∨ post = [] ∨
      ∃ t rest, post = t :: rest ∧ (looksLikeOption t mode = true ∨ t = dashdash))
    (hpost : ¬ Mentioned mode P post oid) :
    (parseArgs ext mode P (pre ++ t :: (vs ++ post))).P.opt oid = o' := by
  have hstm := (matched_static (run ext mode P pre) oid key).trans (run_static_eq ext mode P pre oid)
  have h0 : ([] : List Str).length + vs.length = vs.length := Nat.zero_add _
  exact occurrence_from_head ext mode P pre post vs t ⟨name, []⟩ key oid _ o' he hc hopt hr hl hoid hvs
    (by rw [h0]; exact hroom) (by rw [h0]; exact hmin) hacc
    (save_none_other ext _ _ (by rw [static_kind hstm]; exact hkind) (by rw [static_kind hstm]; exact hkind2))
    hs (by rw [h0]; exact hend) hpost

/-- the long spelling `--name` -/
theorem occurrence_values_in_order (P : Prog) (pre post vs : List Str) (name key : Str) (oid : Nat) (o' : Opt)
    (he : (run ext mode P pre).err = none) (hc : (run ext mode P pre).ctx = .idle)
    (hn : name ≠ []) (hne : ∀ c ∈ name, c ≠ chEq)
    (hr : resolve (P.node (run ext mode P pre).cur) name = [key])
    (hl : lookup key (P.node (run ext mode P pre).cur).opts = some oid)
    (hoid : oid < P.opts.length)
    (hkind : (P.opt oid).kind ≠ .bool) (hkind2 : (P.opt oid).kind ≠ .incr)
    (hvs : vs ≠ [])
    (hroom : (vs.length : Int) ≤ (P.opt oid).max) (hmin : (P.opt oid).min ≤ vs.length)
    (hacc : AllAcceptable ext mode (P.opt oid) 0 vs)
    (hs : saveAll ext (P.node 0).mapKeysToLower (matched (run ext mode P pre) oid key) vs = .ok o')
    (hend : (vs.length : Int) = (P.opt oid).max ∨ post = [] ∨
      ∃ t rest, post = t :: rest ∧ (looksLikeOption t mode = true ∨ t = dashdash))
    (hpost : ¬ Mentioned mode P post oid) :
    (parseArgs ext mode P (pre ++ (chDash :: chDash :: name) :: (vs ++ post))).P.opt oid = o' :=
  occurrence_values_in_order_tok ext mode P pre post vs (chDash :: chDash :: name) name key oid o' he hc
    (long_bare name mode hn hne) hr hl hoid hkind hkind2 hvs hroom hmin hacc hs hend hpost

/-- **The same for an occurrence whose first value is attached** (`--name=v₀ v₁ … vₖ`): the attached value is saved
first (`o1`), the detached ones follow while they are acceptable, and after the whole parse the record is `saveAll`
of `v₁ … vₖ` onto `o1` — i.e. `saveAll` of `v₀, v₁ … vₖ` onto what `pre` had left. -/
theorem occurrence_values_in_order_attached (P : Prog) (pre post vs : List Str) (name key v0 : Str) (oid : Nat) (o1 o' : Opt)
    (he : (run ext mode P pre).err = none) (hc : (run ext mode P pre).ctx = .idle)
    (hn : name ≠ []) (hne : ∀ c ∈ name, c ≠ chEq) (hv0 : v0 ≠ [])
    (hr : resolve (P.node (run ext mode P pre).cur) name = [key])
    (hl : lookup key (P.node (run ext mode P pre).cur).opts = some oid)
    (hoid : oid < P.opts.length)
        (hvs : vs ≠ [])
    (hroom : (1 + vs.length : Int) ≤ (P.opt oid).max) (hmin : (P.opt oid).min ≤ 1 + vs.length)
    (hacc : AllAcceptable ext mode (P.opt oid) 1 vs)
    (hs0 : save ext (P.node 0).mapKeysToLower (matched (run ext mode P pre) oid key) [v0] = .ok o1)
    (hs : saveAll ext (P.node 0).mapKeysToLower o1 vs = .ok o')
    (hend : (1 + vs.length : Int) = (P.opt oid).max ∨ post = [] ∨
      ∃ t rest, post = t :: rest ∧ (looksLikeOption t mode = true ∨ t = dashdash))
    (hpost : ¬ Mentioned mode P post oid) :
    (parseArgs ext mode P (pre ++ (chDash :: chDash :: (name ++ chEq :: v0)) :: (vs ++ post))).P.opt oid = o' := by
  have h1 : (([v0].length + vs.length : Nat) : Int) = 1 + vs.length := Int.natCast_add 1 vs.length
  exact occurrence_from_head ext mode P pre post vs _ ⟨name, [v0]⟩ key oid o1 o' he hc
    (long_attached name v0 mode hn hne hv0) hr hl hoid hvs (by rw [h1]; exact hroom) (by rw [h1]; exact hmin) hacc hs0 hs
    (by rw [h1]; exact hend) hpost

/-! `-v --list=c d e --verbose x`: the occurrence starts with an attached value and takes two more. -/
example :
    ((parseArgs Demo.ext .normal Demo.prog
      [b "-v", b "--list=c", b "d", b "e", b "--verbose", b "x"]).P.opt 2).value = .ss [b "c", b "d", b "e"] ∧
    (saveAll Demo.ext false (matched (run Demo.ext .normal Demo.prog [b "-v"]) 2 (b "list")) [b "c", b "d", b "e"]).toOption.map (·.value)
      = some (.ss [b "c", b "d", b "e"]) := by
  decide +kernel

/-! Non-vacuity: greedy consumption stops at an option-looking token, values kept in order. -/
example : ((parseArgs Demo.ext .normal Demo.prog [b "--list", b "a", b "b", b "--verbose", b "--list=c", b "d", b "e", b "f"]).P.opt 2).value
          = .ss [b "a", b "b", b "c", b "d", b "e"] ∧
          (parseArgs Demo.ext .normal Demo.prog [b "--list", b "a", b "b", b "--verbose", b "--list=c", b "d", b "e", b "f"]).rem = [b "f"] := by
  decide +kernel

/-! `--list=c -v --list a b --verbose x`: the second occurrence of `list` (option 2, bounds 1..3) starts at a head
position, takes `a b`, is ended by the option-looking `--verbose`; the conclusion of `occurrence_values_in_order`,
computed, with its hypotheses on the prefix. -/
example :
    ((parseArgs Demo.ext .normal Demo.prog
      [b "--list=c", b "-v", b "--list", b "a", b "b", b "--verbose", b "x"]).P.opt 2).value = .ss [b "c", b "a", b "b"] ∧
    (run Demo.ext .normal Demo.prog [b "--list=c", b "-v"]).ctx = .idle ∧
    (run Demo.ext .normal Demo.prog [b "--list=c", b "-v"]).err = none ∧
    (saveAll Demo.ext false (matched (run Demo.ext .normal Demo.prog [b "--list=c", b "-v"]) 2 (b "list")) [b "a", b "b"]).toOption.map (·.value)
      = some (.ss [b "c", b "a", b "b"]) ∧
    looksLikeOption (b "--verbose") .normal = true := by
  decide +kernel

end GoModel
