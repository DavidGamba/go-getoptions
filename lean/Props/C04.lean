import Lemmas.Terminator
import Lemmas.Demo
/-!
# C04 — `--` ends option parsing; everything after it is returned untouched
-/
namespace GoModel

variable (ext : Ext) (mode : Mode)

/-- `--` is never taken as an optional or greedy (beyond-minimum) argument: an occurrence that has
its mandatory arguments refuses it, whatever its kind. -/
theorem dashdash_not_greedy (s : PState) (o i : Nat) (h : ¬ ((i : Int) < (s.P.opt o).min)) :
    (offer ext mode s o i dashdash).2 = false :=
  congrArg Prod.snd (offer_optional_refuses ext mode s o i dashdash h (.inr rfl))

/-- `--` does not look like an option in any mode (so it is never the "dash argument" error either). -/
theorem dashdash_not_optionlike (m : Mode) : looksLikeOption dashdash m = false := by
  cases m <;> decide

/-- At a head position `--` only switches the parser to the stopped state: no option, command,
positional or unknown-option record is produced by it. -/
theorem dashdash_at_head (s : PState) : head ext mode none s dashdash = { s with ctx := .stopped } :=
  rfl

/-- **Terminator theorem.**  If the parser is at a head position after `pre` (no option occurrence is
still collecting arguments), then for every tail the state after `pre ++ ["--"] ++ tail` is the state
after `pre` with the tail appended verbatim to the remaining arguments: option values, `Called`
flags, the selected command and the unknown-option records are exactly those of `pre`. -/
theorem terminator (P : Prog) (pre tail : List Str)
    (he : (run ext mode P pre).err = none) (hc : (run ext mode P pre).ctx = .idle) :
    parseArgs ext mode P (pre ++ dashdash :: tail) =
      { (run ext mode P pre) with ctx := .stopped, rem := (run ext mode P pre).rem ++ tail } := by
  rw [parseArgs_cons, step_dashdash_head ext mode _ he hc, rest_stopped ext mode _ tail (by exact he) rfl]

/-- the same, compared with parsing `pre` alone -/
theorem terminator_vs_prefix (P : Prog) (pre tail : List Str)
    (he : (run ext mode P pre).err = none) (hc : (run ext mode P pre).ctx = .idle) :
    let a := parseArgs ext mode P pre
    let r := parseArgs ext mode P (pre ++ dashdash :: tail)
    r.P = a.P ∧ r.cur = a.cur ∧ r.unk = a.unk ∧ r.err = a.err ∧ r.rem = a.rem ++ tail := by
  have hfin : parseArgs ext mode P pre = run ext mode P pre := by
    unfold parseArgs; exact finish_idle ext _ hc
  simp [hfin, terminator ext mode P pre tail he hc]

/-! Non-vacuity: the hypotheses of `terminator` hold on a concrete program after a prefix that sets
options, consumes a greedy argument and selects a command; the tail is made of known option names
and a command name, and is returned untouched. -/
example :
    let pre := [b "--list", b "a", b "b", b "-v", b "cmd", b "--force", b "x"]
    (run Demo.ext .normal Demo.prog pre).err = none ∧ (run Demo.ext .normal Demo.prog pre).ctx = .idle := by
  decide +kernel

example :
    (parseArgs Demo.ext .normal Demo.prog
      [b "--list", b "a", b "--", b "--verbose", b "cmd", b "--"]).rem = [b "--verbose", b "cmd", b "--"] ∧
    ((parseArgs Demo.ext .normal Demo.prog
      [b "--list", b "a", b "--", b "--verbose", b "cmd", b "--"]).P.opt 1).called = false := by
  decide +kernel

/-- a `--` directly behind an optional-value option is not swallowed -/
example :
    (parseArgs Demo.ext .normal Demo.prog [b "--opt", b "--", b "--verbose"]).rem = [b "--verbose"] ∧
    ((parseArgs Demo.ext .normal Demo.prog [b "--opt", b "--", b "--verbose"]).P.opt 3).value = .s (b "d") := by
  decide +kernel

/-- **Terminator theorem, every prefix.**  Let `pre` be any argument list whose parse succeeds on its
own (so nothing at its end still lacks a mandatory argument - the one situation in which a following
`--` is a value).  Then for every tail, parsing `pre ++ ["--"] ++ tail` gives exactly the result of
parsing `pre` - option store, selected command, unknown-option records, no error - with `tail`
appended verbatim to the remaining arguments (and `--` itself in front of it when interpretation
had already stopped inside `pre`: an earlier `--` or the require-order stop).  No hypothesis on mode,
unknown-mode, require-order, or on what kind of option (optional value, multi-value, bundled) is open
at the end of `pre`. -/
theorem terminator_general (P : Prog) (pre tail : List Str)
    (hf : (parseArgs ext mode P pre).err = none) :
    parseArgs ext mode P (pre ++ dashdash :: tail) =
      if (parseArgs ext mode P pre).ctx = .idle then
        { (parseArgs ext mode P pre) with ctx := .stopped, rem := (parseArgs ext mode P pre).rem ++ tail }
      else
        { (parseArgs ext mode P pre) with rem := (parseArgs ext mode P pre).rem ++ dashdash :: tail } := by
  have hnd := run_not_done ext mode P pre
  -- an error before the end of input is still there after it
  have he : (run ext mode P pre).err = none := Decidable.byContradiction fun h => by
    rw [parseArgs, finish_err ext _ (Option.isSome_iff_ne_none.mpr h)] at hf; exact h hf
  have hctx := finish_ctx ext _ hnd hf
  unfold parseArgs at hf hctx ⊢
  rw [run_append]
  simp only [List.foldl]
  rw [step_dashdash ext mode _ he hnd hf]
  generalize finish ext (run ext mode P pre) = f at hf hctx ⊢
  unfold closeWith
  by_cases hi : f.ctx = .idle
  · simp only [hi, ↓reduceIte]
    rw [rest_stopped ext mode _ tail (by exact hf) rfl]
  · have hs : f.ctx = .stopped := by
      rcases hctx with h | h
      · exact absurd h hi
      · exact h
    simp only [hi, ↓reduceIte]
    rw [rest_stopped ext mode _ tail (by exact hf) (by exact hs)]
    simp [PState.addText, List.append_assoc]

/-- field by field: nothing behind the `--` sets an option, selects a command, or is recorded as an
unknown option; the tail comes back verbatim and in order -/
theorem terminator_general_fields (P : Prog) (pre tail : List Str)
    (hf : (parseArgs ext mode P pre).err = none) :
    let a := parseArgs ext mode P pre
    let r := parseArgs ext mode P (pre ++ dashdash :: tail)
    r.P = a.P ∧ r.cur = a.cur ∧ r.unk = a.unk ∧ r.err = none ∧
      (r.rem = a.rem ++ tail ∨ r.rem = a.rem ++ dashdash :: tail) := by
  simp only
  rw [terminator_general ext mode P pre tail hf]
  by_cases hi : (parseArgs ext mode P pre).ctx = .idle
  · simp [hi, hf]
  · simp [hi, hf]

/-- the excluded case is exactly the mandatory value: when the parse of `pre` alone fails only
because its last occurrence lacks a mandatory argument, `--` is consumed as that argument -/
example :
    (parseArgs Demo.ext .normal Demo.prog [b "--name"]).err ≠ none ∧
    ((parseArgs Demo.ext .normal Demo.prog [b "--name", b "--", b "--verbose"]).P.opt 0).value = .s (b "--") := by
  decide +kernel

/-- non-vacuity of `terminator_general` with an optional-value option open at the end of `pre`, with a
multi-value option open, and after an earlier `--` -/
example :
    (parseArgs Demo.ext .normal Demo.prog [b "-v", b "--opt"]).err = none ∧
    (parseArgs Demo.ext .normal Demo.prog [b "--list", b "a"]).err = none ∧
    (parseArgs Demo.ext .normal Demo.prog [b "--", b "x"]).err = none ∧
    (parseArgs Demo.ext .normal Demo.prog [b "--", b "x"]).ctx ≠ .idle := by
  decide +kernel

end GoModel
