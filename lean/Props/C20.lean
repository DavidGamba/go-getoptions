import Lemmas.PermEquiv
import Lemmas.HelpPerm
import Lemmas.ParseUser
import Lemmas.Demo
/-!
# C20 — same definition and input always give the same result and the same text

Go randomises map iteration order.  In the model a map is an association list whose order stands
for the iteration order; the theorems below show that what the library computes from a table does
not depend on that order (keys are distinct, as in a Go map).
-/
namespace GoModel

/-- a map read does not depend on the iteration order -/
theorem map_read_order_independent {α} (l l' : List (Str × α)) (k : Str) (hp : l.Perm l')
    (hnd : (l.map (·.1)).Nodup) : lookup k l = lookup k l' := lookup_perm l l' k hp hnd

/-- "unknown", "unique" and "ambiguous" are decided identically whatever the iteration order, a
unique match is the same key, and the sorted candidate list of the ambiguity error is the same text -/
theorem resolve_order_independent (nd nd' : Node) (k : Str) (hp : nd.opts.Perm nd'.opts)
    (hnd : (nd.opts.map (·.1)).Nodup) :
    ((resolve nd k = []) ↔ (resolve nd' k = [])) ∧
    (∀ key, resolve nd k = [key] ↔ resolve nd' k = [key]) ∧
    sortStrs (resolve nd k) = sortStrs (resolve nd' k) := by
  have h := resolve_perm nd nd' k hp hnd
  refine ⟨?_, ?_, sortStrs_perm_eq _ _ h⟩
  · constructor
    · intro e; rw [e] at h; exact h.symm.eq_nil
    · intro e; rw [e] at h; exact h.eq_nil
  · intro key
    constructor
    · intro e; rw [e] at h; exact h.symm.eq_singleton
    · intro e; rw [e] at h; exact h.eq_singleton

/-- the missing-required-option diagnostic is chosen by a fixed rule (first in sorted key order),
whatever the iteration order of the table -/
theorem checkRequired_perm (P P' : Prog) (n : Nat) (hopts : P.opts = P'.opts)
    (hp : (P.node n).opts.Perm (P'.node n).opts) (hnd : ((P.node n).opts.map (·.1)).Nodup) :
    checkRequired P n = checkRequired P' n := by
  unfold checkRequired
  simp only
  have hkeys : sortStrs ((P.node n).opts.map (·.1)) = sortStrs ((P'.node n).opts.map (·.1)) :=
    sortStrs_perm_eq _ _ (hp.map _)
  rw [hkeys]
  congr 1
  funext k
  rw [← lookup_perm _ _ k hp hnd]
  simp only [Prog.opt, hopts]
  rfl

/-- `gopt.Called(name)` on the root table reads the same over a permuted table -/
theorem calledAtRoot_perm (P P' : Prog) (name : Str) (hopts : P.opts = P'.opts)
    (hp : (P.node 0).opts.Perm (P'.node 0).opts) (hnd : ((P.node 0).opts.map (·.1)).Nodup) :
    calledAtRoot P name = calledAtRoot P' name := by
  unfold calledAtRoot
  rw [← lookup_perm _ _ name hp hnd]
  simp only [Prog.opt, hopts]

theorem requiredAtParse_wn (s : PState) (N' : List Node) (hn : NPerm s.P N') :
    requiredAtParse (s.wn N') = requiredAtParse s := by
  unfold requiredAtParse helpRequested
  have hc : (s.wn N').cur = s.cur := rfl
  have hnode : (s.wn N').P.node s.cur = N'.getD s.cur dummyNode := rfl
  rw [hc, hnode]
  have hpar : (N'.getD s.cur dummyNode).parent = (s.P.node s.cur).parent :=
    (congrArg Node.parent (hn s.cur).rest).symm
  have hhn : (N'.getD s.cur dummyNode).helpName = (s.P.node s.cur).helpName :=
    (congrArg Node.helpName (hn s.cur).rest).symm
  have hcr : calledAtRoot (s.wn N').P (s.P.node s.cur).helpName = calledAtRoot s.P (s.P.node s.cur).helpName :=
    (calledAtRoot_perm s.P (s.wn N').P _ rfl (hn 0).opts (hn 0).ndO).symm
  have hck : checkRequired (s.wn N').P s.cur = checkRequired s.P s.cur :=
    (checkRequired_perm s.P (s.wn N').P s.cur rfl (hn s.cur).opts (hn s.cur).ndO).symm
  simp only [hpar, hhn, hcr, hck]

/-- command selection reads the command table by exact name -/
theorem command_lookup_perm (nd nd' : Node) (t : Str) (hp : nd.cmds.Perm nd'.cmds) (hnd : (nd.cmds.map (·.1)).Nodup) :
    lookup t nd.cmds = lookup t nd'.cmds := lookup_perm _ _ t hp hnd

/-- the unknown-option policy only looks at the log, which is in command-line order -/
theorem unknownPolicy_deterministic (unk : List (Str × UMode)) :
    unknownPolicy unk [] = ((firstFail unk).map UErr.unknown, warnedBefore unk) := by
  rw [unknownPolicy_spec]; simp

/-! ## The whole of `Parse` is independent of the iteration order -/

variable (ext : Ext)

/-- **`Parse` over tables iterated in another order gives the same result**: `N'` is the node list
of `P` with the option table and the command table of every node permuted (keys distinct, as in a Go
map).  Then `Parse` returns the same error, the same remaining list and the same warnings, and leaves
the same option store — for every argument list.  Together with the sorted diagnostics this is the
determinism of `Parse` under Go's randomised map iteration. -/
theorem parseUser_perm (P : Prog) (N' : List Node) (args : List Str) (h : NPerm P N') :
    (parseUser ext { P with nodes := N' } args).err = (parseUser ext P args).err ∧
    (parseUser ext { P with nodes := N' } args).remaining = (parseUser ext P args).remaining ∧
    (parseUser ext { P with nodes := N' } args).warnings = (parseUser ext P args).warnings ∧
    (parseUser ext { P with nodes := N' } args).st = (parseUser ext P args).st.wn N' := by
  have hmode : (({ P with nodes := N' } : Prog).node 0).mode = (P.node 0).mode :=
    (congrArg Node.mode (h 0).rest).symm
  obtain ⟨hs, hn⟩ := parseArgs_overNodes ext (P.node 0).mode P N' args h
  unfold parseUser
  simp only
  rw [hmode, hs]
  generalize parseArgs ext (P.node 0).mode P args = s at hn ⊢
  have he : (s.wn N').err = s.err := rfl
  have hu : (s.wn N').unk = s.unk := rfl
  have hr : (s.wn N').rem = s.rem := rfl
  rw [he, requiredAtParse_wn s N' hn, hu, hr]
  cases s.err with
  | some e => exact ⟨rfl, rfl, rfl, rfl⟩
  | none =>
    simp only
    cases requiredAtParse s with
    | some e => exact ⟨rfl, rfl, rfl, rfl⟩
    | none =>
      simp only
      cases hpol : unknownPolicy s.unk [] with
      | mk e w => cases e <;> exact ⟨rfl, rfl, rfl, rfl⟩

/-- **The help text is independent of the iteration order**: over the node list with every option
table and command table permuted, `Help()` / the help option / the help command render the same
bytes for every level and every choice of sections.  (`hd`, the level's command table has distinct keys, is
not used: `h` says so already, `NodePerm.ndC`.) -/
theorem help_text_order_independent (P : Prog) (N' : List Node) (h : NPerm P N')
    (hlen : N'.length = P.nodes.length) (n : Nat) (hd : CmdNamesDistinct P n) (secs : List Section) :
    helpOutput ext { P with nodes := N' } n secs = helpOutput ext P n secs :=
  helpOutput_w ext (P := P) (Q := { P with nodes := N' }) rfl h hlen n secs

example : CmdNamesDistinct Demo.prog 0 := by unfold CmdNamesDistinct; decide +kernel

/-- … and so for **every program accepted by the definition layer** — whatever the script did, including `Self`
giving several commands the same display name (the defect repaired in 68a1c64: the list is keyed by the name a
command is registered under, and that name is a key of a Go map) — the help text of every level does not depend on
the iteration order.  `hb` is not used either. -/
theorem help_text_order_independent_built (env : Env) (root : Str) (script : List DefOp) (st : BState)
    (hb : buildB ext env root script = .ok st) (N' : List Node) (h : NPerm st.P N')
    (hlen : N'.length = st.P.nodes.length) (n : Nat) (secs : List Section) :
    helpOutput ext { st.P with nodes := N' } n secs = helpOutput ext st.P n secs :=
  helpOutput_w ext (P := st.P) (Q := { st.P with nodes := N' }) rfl h hlen n secs

/-- **The completion list is independent of the iteration order**: the whole `COMP_LINE` branch of
`Parse` — walking the earlier words, then producing the candidates for the last one, including the
single-candidate hint that reads the option met last — gives the same list (or the same error) over
permuted tables.  Hypothesis: no option key contains `=` (such a key could never be typed). -/
theorem completion_order_independent (P : Prog) (N' : List Node) (zsh : Bool) (compLine : Str)
    (args : List Str) (h : NPerm P N') (hk : AllKeysNoEq P) :
    completeUser ext { P with nodes := N' } zsh compLine args = completeUser ext P zsh compLine args := by
  unfold completeUser
  simp only
  have hmode : (({ P with nodes := N' } : Prog).node 0).mode = (P.node 0).mode :=
    (congrArg Node.mode (h 0).rest).symm
  rw [hmode, completeArgs_wn ext (P.node 0).mode _ P N' _ h hk]
  rfl

/-- beyond the node list `P.node` is the empty `dummyNode`: the hypothesis need only be checked on `P.nodes` -/
theorem allKeysNoEq_of_nodes {P : Prog} (h : ∀ n ∈ P.nodes, KeysNoEq n) : AllKeysNoEq P := by
  intro i
  rw [Prog.node, List.getD_eq_getElem?_getD]
  cases hi : P.nodes[i]? with
  | none => exact fun _ hkv => nomatch hkv
  | some n => exact h n (List.mem_of_getElem? hi)

example : AllKeysNoEq Demo.prog := allKeysNoEq_of_nodes (by unfold KeysNoEq; decide +kernel)

/-- reversing both tables of every node is a permutation in the sense of `NPerm` as soon as the tables have distinct keys -/
theorem nperm_reverse {P : Prog} (h : ∀ n ∈ P.nodes, (n.opts.map (·.1)).Nodup ∧ (n.cmds.map (·.1)).Nodup) :
    NPerm P (P.nodes.map fun n => { n with opts := n.opts.reverse, cmds := n.cmds.reverse }) := by
  intro i
  have key : ∀ n : Node, (n.opts.map (·.1)).Nodup → (n.cmds.map (·.1)).Nodup →
      NodePerm n { n with opts := n.opts.reverse, cmds := n.cmds.reverse } :=
    fun n h1 h2 => ⟨(List.reverse_perm _).symm, (List.reverse_perm _).symm, h1, h2, rfl⟩
  rw [Prog.node, List.getD_eq_getElem?_getD, List.getD_eq_getElem?_getD, List.getElem?_map]
  cases hi : P.nodes[i]? with
  | none => exact key dummyNode .nil .nil
  | some n => exact key n (h n (List.mem_of_getElem? hi)).1 (h n (List.mem_of_getElem? hi)).2

/-- the hypothesis is met by reversing both tables of every node of the demo program -/
example : NPerm Demo.prog
    (Demo.prog.nodes.map fun n => { n with opts := n.opts.reverse, cmds := n.cmds.reverse }) :=
  nperm_reverse (by decide +kernel)

end GoModel
