import Lemmas.SchedMore
/-!
# C13 — a task starts only after all its dependencies have finished successfully

All statements are about **every reachable scheduler state of every graph built through the API that
passed the cycle check** — every completion order, every outcome assignment, every parallelism limit.
-/
namespace GoModel.Dag

/-- **A real launch implies finished dependencies.**  Whenever the scheduler can launch `v` as a real
task, every task `v` depends on directly has really run and returned nil. -/
theorem launch_after_deps (c : Cfg) (hc : Scheduled c) (s s' : Sched) (hr : Reachable c s) (v : Nat)
    (hs : step? c s (.pickReal v) = some s') :
    ∀ ch ∈ c.g.children v, (s.get ch).st = .done ∧ (s.get ch).out = some .ok ∧ (s.get ch).real = true := by
  cases step?_step hs with
  | vertex hv _ => cases hv with
    | pickReal _ _ hrd hp he =>
      exact real_launch_deps_ok c hc.ancOK s (reachable_sinv c hc.ancOK s hr) v hrd hp he

/-- … and so has every transitive dependency of a really launched task. -/
theorem real_descendants_done (c : Cfg) (hc : Scheduled c) (s : Sched) (hr : Reachable c s) (v d : Nat)
    (hv : (s.get v).real = true) (hp : Path c.g.children v d) :
    (s.get d).st = .done ∧ (s.get d).out = some .ok ∧ (s.get d).real = true :=
  (reachable_sinv c hc.ancOK s hr).real_path hv hp

/-- **A task function is entered only after all its (transitive) dependencies returned nil.** -/
theorem enter_after_deps (c : Cfg) (hc : Scheduled c) (s s' : Sched) (hr : Reachable c s) (v k d : Nat)
    (hs : step? c s (.enter v k) = some s') (hp : Path c.g.children v d) :
    (s.get d).st = .done ∧ (s.get d).out = some .ok ∧ (s.get d).real = true := by
  cases step?_step hs with
  | vertex hv _ => cases hv with
    | enter _ hf _ =>
      have hreal := ((reachable_sinv c hc.ancOK s hr).f v (by simp [hf])).1
      exact real_descendants_done c hc s hr v d hreal hp

/-- a finished real result is final: no event changes the status or the result of a vertex that has
really run and returned nil while a dependent holds on to it -/
theorem real_done_stable (c : Cfg) (hc : Scheduled c) (s s' : Sched) (ev : Event) (hr : Reachable c s) (p ch : Nat)
    (hp : (s.get p).real = true) (hch : ch ∈ c.g.children p) (hs : step? c s ev = some s') :
    (s'.get ch).st = .done ∧ (s'.get ch).out = some .ok := by
  have hinv := reachable_sinv c hc.ancOK s hr
  have := (step?_step hs).real_ok_final hc.ancOK hinv ch (hinv.b p hp ch hch)
  exact ⟨this.1, this.2.1⟩

/-! ## attempts: strictly one after another, at most `retries + 1`, stopping at the first nil -/

/-- a task function is entered for attempt `k` only when the goroutine is between attempts and `k` is
the next attempt number, and never beyond the retry budget -/
theorem enter_requires (c : Cfg) (s s' : Sched) (v k : Nat) (hs : step? c s (.enter v k) = some s') :
    (s.get v).fl = .idle k ∧ (k : Int) ≤ c.g.retriesOf v ∧ (s'.get v).fl = .running k := by
  cases step?_step hs with
  | vertex hv _ => cases hv with
    | enter _ hf hk => exact ⟨hf, hk, by simp⟩

/-- after an attempt returns: nil, or the last permitted attempt, hands the result over (no further
attempt is possible); any other failure leads to attempt `k + 1` -/
theorem leave_next (c : Cfg) (s s' : Sched) (v k : Nat) (r : Res) (hs : step? c s (.leave v k r) = some s') :
    (s.get v).fl = .running k ∧
    (s'.get v).fl = if r == .ok || decide ((k : Int) ≥ c.g.retriesOf v) then .sending r else .idle (k + 1) := by
  cases step?_step hs with
  | vertex hv _ => cases hv with
    | leaveSend _ _ hf _ hl => exact ⟨hf, by simp [hl]⟩
    | leaveRetry _ _ hf _ hl => exact ⟨hf, by simp [hl.1]; omega⟩

/-- the first attempt can start only after the scheduler launched the task, the semaphore slot and
the task lock were acquired: `pickReal → semAcq → lockAcq → enter 0` is the only way to `idle 0` -/
theorem first_attempt_chain (c : Cfg) (s s' : Sched) (v : Nat) :
    (step? c s (.semAcq v) = some s' → (s.get v).fl = .waitSem) ∧
    (step? c s (.lockAcq v) = some s' → (s.get v).fl = .waitLock ∧ (s'.get v).fl = .idle 0) := by
  constructor
  · intro hs
    cases step?_step hs with
    | vertex hv _ => cases hv with
      | semAcq hf _ => exact hf
  · intro hs
    cases step?_step hs with
    | vertex hv _ => cases hv with
      | lockAcq hf => exact ⟨hf, by simp⟩

/-- a completion is received only for a result that was handed over (real task) or for a pseudo
completion that is outstanding -/
theorem recv_requires (c : Cfg) (s s' : Sched) (v : Nat) (r : Res) (hs : step? c s (.recv v r) = some s') :
    r ∈ (s.get v).pseudo ∨ (s.get v).fl = .sending r := by
  cases step?_step hs with
  | vertex hv _ => cases hv with
    | recv _ _ hr => exact hr
  | skip hv => cases hv with
    | recv _ _ hr => exact hr

/-! Non-vacuity: a chain 2 → 1 run through the acceptor. -/
def demoCfg : Cfg := { g := buildGraph [.dependsOn (t 2) [t 1]] }

example : (accept demoCfg initSched
    [.pickReal 1, .idle, .semAcq 1, .lockAcq 1, .enter 1 0, .leave 1 0 .ok, .recv 1 .ok, .semRel 1,
     .pickReal 2, .semAcq 2, .lockAcq 2, .enter 2 0, .leave 2 0 .ok, .recv 2 .ok, .exit] 0).toOption.isSome = true := by
  decide
/-- the dependent cannot be launched first -/
example : step? demoCfg initSched (.pickReal 2) = none := by decide

end GoModel.Dag
