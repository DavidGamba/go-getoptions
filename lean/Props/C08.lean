import Lemmas.ParseUser
import Lemmas.Frame
import Lemmas.Demo
/-!
# C08 — unknown options are never silently ignored: Fail errors, Warn warns, Pass passes
-/
namespace GoModel

variable (ext : Ext) (mode : Mode)

/-- Without require-order an unmatched option is always recorded, together with the unknown-mode of
the level it was given at; the option store and the parser context are left alone, so the known
options around it are processed as usual. -/
theorem unknown_recorded (s : PState) (p : Pair)
    (hr : resolve (s.P.node s.cur) p.opt = []) (hro : (s.P.node s.cur).requireOrder = false) :
    (procPair ext s p).unk = s.unk ++ [(p.opt, (s.P.node s.cur).umode)] ∧
    (procPair ext s p).P = s.P ∧ (procPair ext s p).ctx = s.ctx ∧ (procPair ext s p).err = s.err ∧
    (procPair ext s p).cur = s.cur := by
  rw [procPair_unknown ext s p hr hro]
  split <;> exact ⟨rfl, rfl, rfl, rfl, rfl⟩

/-- Fail mode: an unknown option recorded at a `fail` level makes `Parse` fail — it is never dropped.
(The only errors that can take precedence are a parse error or a missing required option.) -/
theorem parse_fail_unknown (P : Prog) (args : List Str) (u : Str)
    (he : (parseArgs ext (P.node 0).mode P args).err = none)
    (hf : firstFail (parseArgs ext (P.node 0).mode P args).unk = some u) :
    ∃ e, (parseUser ext P args).err = some e ∧ (parseUser ext P args).remaining = none := by
  rcases parseUser_cases ext P args with h | ⟨_, _, _, _, hp⟩
  · exact h
  · rw [unknownPolicy_spec, hf] at hp; cases hp

/-- … and when nothing else is wrong, the error is the unknown-option error naming that option. -/
theorem parse_fail_unknown_names (P : Prog) (args : List Str) (u : Str)
    (he : (parseArgs ext (P.node 0).mode P args).err = none)
    (hreq : requiredAtParse (parseArgs ext (P.node 0).mode P args) = none)
    (hf : firstFail (parseArgs ext (P.node 0).mode P args).unk = some u) :
    (parseUser ext P args).err = some (.unknown u) := by
  unfold parseUser
  simp only [he, hreq]
  rw [unknownPolicy_spec]
  simp [hf]

/-- Warn / Pass: a successful parse returns the warnings for exactly the `warn`-level unknown
options, in order. -/
theorem parse_warnings (P : Prog) (args : List Str) (rem : List Str)
    (h : (parseUser ext P args).remaining = some rem) :
    (parseUser ext P args).warnings = warnedBefore (parseArgs ext (P.node 0).mode P args).unk ∧
    firstFail (parseArgs ext (P.node 0).mode P args).unk = none := by
  rcases parseUser_cases ext P args with ⟨_, _, h0⟩ | ⟨_, _, _, _, hp⟩
  · rw [h0] at h; cases h
  · rw [unknownPolicy_spec, List.nil_append] at hp
    injection hp with h1 h2
    exact ⟨h2.symm, Option.map_eq_none_iff.mp h1⟩

theorem firstFail_append (a : List (Str × UMode)) (u : Str) (m : List (Str × UMode)) :
    ∃ v, firstFail (a ++ (u, .fail) :: m) = some v := by
  induction a with
  | nil => exact ⟨u, rfl⟩
  | cons x r ih =>
    obtain ⟨x1, x2⟩ := x
    cases x2 with
    | fail => exact ⟨x1, rfl⟩
    | warn => simpa [firstFail] using ih
    | pass => simpa [firstFail] using ih

/-- one step: an option token at a head position whose single pair is not declared at the level (no require-order) is
logged with the unknown-mode of the level -/
theorem step_unknown_logged (s : PState) (t : Str) (p : Pair) (he : s.err = none) (hc : s.ctx = .idle)
    (hopt : isOption t mode = ([p], true)) (hr : resolve (s.P.node s.cur) p.opt = [])
    (hro : (s.P.node s.cur).requireOrder = false) :
    (step ext mode s t).unk = s.unk ++ [(p.opt, (s.P.node s.cur).umode)] := by
  rw [step_single ext mode s t p he hc hopt]
  exact (unknown_recorded ext { headState s t with pending := [] } p hr hro).1

/-- **Whole command line, never dropped.**  An option token given where an option may start, whose
name is not declared at that level (no require-order), is in the unknown-option log of the *finished*
parse together with the unknown-mode of its level — whatever comes before and after it: the log
only grows (`Moves.unk_prefix`). -/
theorem unknown_never_dropped (P : Prog) (pre post : List Str) (t : Str) (p : Pair)
    (he : (run ext mode P pre).err = none) (hc : (run ext mode P pre).ctx = .idle)
    (hopt : isOption t mode = ([p], true))
    (hr : resolve ((run ext mode P pre).P.node (run ext mode P pre).cur) p.opt = [])
    (hro : ((run ext mode P pre).P.node (run ext mode P pre).cur).requireOrder = false) :
    ∃ more, (parseArgs ext mode P (pre ++ t :: post)).unk =
      (run ext mode P pre).unk ++ (p.opt, ((run ext mode P pre).P.node (run ext mode P pre).cur).umode) :: more :=
  parseArgs_unk_kept ext mode P pre post t _ (step_unknown_logged ext mode _ t p he hc hopt hr hro)

/-- … hence in Fail mode the finished `Parse` returns an error and no remaining list. -/
theorem unknown_fails_parse (P : Prog) (pre post : List Str) (t : Str) (p : Pair)
    (he : (run ext (P.node 0).mode P pre).err = none) (hc : (run ext (P.node 0).mode P pre).ctx = .idle)
    (hopt : isOption t (P.node 0).mode = ([p], true))
    (hr : resolve ((run ext (P.node 0).mode P pre).P.node (run ext (P.node 0).mode P pre).cur) p.opt = [])
    (hro : ((run ext (P.node 0).mode P pre).P.node (run ext (P.node 0).mode P pre).cur).requireOrder = false)
    (hm : ((run ext (P.node 0).mode P pre).P.node (run ext (P.node 0).mode P pre).cur).umode = .fail) :
    (parseUser ext P (pre ++ t :: post)).err ≠ none ∧ (parseUser ext P (pre ++ t :: post)).remaining = none := by
  obtain ⟨more, hu⟩ := unknown_never_dropped ext (P.node 0).mode P pre post t p he hc hopt hr hro
  rw [hm] at hu
  obtain ⟨v, hv⟩ := firstFail_append (run ext (P.node 0).mode P pre).unk p.opt more
  rw [← hu] at hv
  rcases parseUser_cases ext P (pre ++ t :: post) with ⟨e, h1, h2⟩ | ⟨_, _, _, _, hp⟩
  · exact ⟨by rw [h1]; exact Option.some_ne_none e, h2⟩
  · rw [unknownPolicy_spec, hv] at hp; cases hp

/-! Non-vacuity: Fail names the first unknown; Warn warns once per unknown and keeps the tokens. -/
example : (parseUser Demo.ext Demo.prog [b "--num=1", b "--zzz", b "x", b "-Q"]).err = some (.unknown (b "zzz")) := by
  decide +kernel
example :
    let P := Demo.prog.modNode 0 fun n => { n with umode := .warn }
    (parseUser Demo.ext P [b "--num=1", b "--zzz", b "x", b "-Q=3", b "-v"]).warnings = [b "zzz", b "Q"] ∧
    (parseUser Demo.ext P [b "--num=1", b "--zzz", b "x", b "-Q=3", b "-v"]).remaining = some [b "--zzz", b "x", b "-Q=3"] := by
  decide +kernel
/-- an unknown option given before a command is judged at the level it was given at -/
example : (parseUser Demo.ext Demo.prog [b "--num=1", b "--force", b "cmd"]).err = some (.unknown (b "force")) := by
  decide +kernel

end GoModel
