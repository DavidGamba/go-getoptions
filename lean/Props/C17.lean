import Props.C10
import Lemmas.OptCand
/-!
# C17 — completion offers exactly the applicable commands, options and values
-/
namespace GoModel

variable (ext : Ext)

/-- **Options offered.**  For a last word `w` starting with `-` the candidates before the
single-candidate hint are, up to order, exactly the per-key contributions of the current level's
table (names and aliases, own and inherited): `--k` / `--k=` for every key that starts with the typed
text, the lonesome dash only for `-`, and value candidates for `--k=…`. -/
theorem option_candidates_perm (target : Str) (P : Prog) (nd : Node) (w : Str) :
    (sortStrs (nd.opts.foldl (optCandStep ext target P w (trimDash (trimDash w))) ([], none)).1).Perm
      (nd.opts.flatMap (candsOfKey ext target P w (trimDash (trimDash w)))) := by
  rw [optCand_fst]
  simpa using sortStrs_perm _

/-- every key offered as `--k…` is a key of the table and starts with the typed text -/
theorem offered_key_is_key (target : Str) (P : Prog) (nd : Node) (w part : Str) (c : Str)
    (h : c ∈ nd.opts.flatMap (candsOfKey ext target P w part)) :
    ∃ kv ∈ nd.opts, c ∈ candsOfKey ext target P w part kv := by
  simpa [List.mem_flatMap] using h

/-- an offered key is accepted by the parser at that level: it resolves to itself (never unknown,
never ambiguous) -/
theorem offered_key_accepted (nd : Node) (k : Str) (oid : Nat) (hk : (k, oid) ∈ nd.opts) :
    ∃ o, resolve nd k = [k] ∧ lookup k nd.opts = some o := by
  obtain ⟨o, ho⟩ := lookup_some_of_mem nd.opts k (List.mem_map.mpr ⟨(k, oid), hk, rfl⟩)
  exact ⟨o, resolve_exact nd k o ho, ho⟩

/-- outside bash the single-candidate rule does nothing -/
theorem argCompletions_of_ne_bash (target : Str) (nd : Node) (text : List Str) (w : Str) (hz : target ≠ b "bash") :
    argCompletions ext target nd text w =
      sortStrs (((nd.cmds.filter fun kv => hasPrefix kv.1 w).map (·.1)) ++
        (nd.suggestions.filter fun e => hasPrefix e w) ++ (nd.suggestFns.flatMap fun f => ext.argFn f target text w)) := by
  unfold argCompletions
  dsimp only
  split
  · rw [if_neg (by simpa using hz)]
  · rfl

/-- **Commands and arguments offered.**  Otherwise the candidates are exactly: the sub-commands of
the level (the help command included) whose name starts with the typed word, the static argument
suggestions that start with it, and whatever the dynamic completion functions return — sorted. -/
theorem arg_candidates (target : Str) (nd : Node) (text : List Str) (w : Str) (c : Str) (hz : target ≠ b "bash") :
    c ∈ argCompletions ext target nd text w ↔
      ((∃ id, (c, id) ∈ nd.cmds ∧ hasPrefix c w = true) ∨ (c ∈ nd.suggestions ∧ hasPrefix c w = true) ∨
       (∃ f ∈ nd.suggestFns, c ∈ ext.argFn f target text w)) := by
  rw [argCompletions_of_ne_bash ext target nd text w hz, (sortStrs_perm _).mem_iff]
  simp only [List.mem_append, List.mem_map, List.mem_filter, List.mem_flatMap, or_assoc]
  refine or_congr ⟨?_, ?_⟩ Iff.rfl
  · rintro ⟨kv, ⟨h1, h2⟩, rfl⟩; exact ⟨kv.2, h1, h2⟩
  · rintro ⟨id, h1, h2⟩; exact ⟨(c, id), ⟨h1, h2⟩, rfl⟩

/-- for bash a single candidate gets a trailing blank (so that the shell moves on); nothing else changes -/
theorem arg_candidates_bash_single (nd : Node) (text : List Str) (w c0 : Str)
    (hone : sortStrs (((nd.cmds.filter fun kv => hasPrefix kv.1 w).map (·.1)) ++
      (nd.suggestions.filter fun e => hasPrefix e w) ++ (nd.suggestFns.flatMap fun f => ext.argFn f (b "bash") text w)) = [c0]) :
    argCompletions ext (b "bash") nd text w = [c0 ++ [chSp]] := by
  unfold argCompletions
  simp only [hone]
  simp

/-- an offered command is a child of the level: the parser descends into it -/
theorem offered_command_accepted (nd : Node) (c : Str) (id : Nat) (h : (c, id) ∈ nd.cmds) :
    ∃ id', lookup c nd.cmds = some id' :=
  lookup_some_of_mem nd.cmds c (List.mem_map.mpr ⟨(c, id), h, rfl⟩)

/-- the candidate lists are sorted (bytewise) -/
theorem arg_candidates_sorted (target : Str) (nd : Node) (text : List Str) (w : Str) :
    (sortStrs (((nd.cmds.filter fun kv => hasPrefix kv.1 w).map (·.1)) ++
      (nd.suggestions.filter fun e => hasPrefix e w) ++ (nd.suggestFns.flatMap fun f => ext.argFn f target text w))).Pairwise (fun a c => le a c = true) →
    (argCompletions ext target nd text w).Pairwise (fun a c => le a c = true) := by
  unfold argCompletions
  simp only
  generalize sortStrs (((nd.cmds.filter fun kv => hasPrefix kv.1 w).map (·.1)) ++
      (nd.suggestions.filter fun e => hasPrefix e w) ++ (nd.suggestFns.flatMap fun f => ext.argFn f target text w)) = cs
    at *
  intro hs
  split
  · split
    · simp
    · exact hs
  · exact hs

theorem option_candidates_sorted (target : Str) (P : Prog) (nd : Node) (w : Str) :
    (optionCompletions ext target P nd w).Pairwise (fun a c => le a c = true) := by
  unfold optionCompletions
  simp only
  split
  · split
    · exact sortStrs_sorted _
    · exact sortStrs_sorted _
  · exact sortStrs_sorted _

/-- completion never runs a command function and always ends on the exit path: the outcome is a
candidate list or an error message, nothing else -/
theorem complete_outcome (P : Prog) (zsh : Bool) (line : Str) (args : List Str) :
    (∃ l, completeUser ext P zsh line args = .candidates l) ∨ (∃ e, completeUser ext P zsh line args = .error e) := by
  unfold completeUser
  simp only
  split
  · exact Or.inr ⟨_, rfl⟩
  · exact Or.inl ⟨_, rfl⟩

/-! Non-vacuity -/
example : completeUser Demo.ext Demo.prog true (b "./prog --ver") [] =
    .candidates [b "--verbose", b "--version"] := by decide +kernel
example : completeUser Demo.ext Demo.prog true (b "./prog c") [] = .candidates [b "cmd"] := by decide +kernel
example : completeUser Demo.ext Demo.prog false (b "./prog cmd --fo") [] =
    .candidates [b "--force"] := by decide +kernel

variable (mode : Mode)

/-! ## whole line: the level reached by the earlier words -/

/-- **What is offered is computed at the level the earlier words lead to, with the parser's own walk.**  The
earlier words are processed by the same `run` as `Parse`; when they leave the parser at a head position (no error,
no option waiting for a value), the candidates for the last word `w` are exactly `completionsAt` of the command
selected by those words — its option table (own and inherited keys) when `w` starts with `-`, its sub-commands,
static suggestions and dynamic functions otherwise, the latter called with the text that belongs to that command. -/
theorem completion_at_reached_level (target : Str) (P : Prog) (earlier : List Str) (w : Str)
    (he : (run ext mode P earlier).err = none) (hc : (run ext mode P earlier).ctx = .idle) :
    let s := run ext mode P earlier
    (completeArgs ext mode target P (earlier ++ [w])).comps =
      some (completionsAt ext target s.P (s.P.node s.cur) (s.rem.drop s.textStart) w) ∧
    (completeArgs ext mode target P (earlier ++ [w])).err = none := by
  simp only
  unfold completeArgs
  simp only [List.getLast?_append, List.getLast?_singleton, Option.some_or, List.dropLast_concat]
  generalize run ext mode P earlier = s at he hc
  rw [stepG_eq, byCtx_idle he hc, head_eq, if_neg (fun h => nomatch h.1), headOther, finish_eq, byCtx]
  simp only [he, Option.isSome_none, Bool.false_eq_true, ↓reduceIte]
  exact ⟨trivial, trivial⟩

/-- after the command words `c₁ … cₖ` the candidates are those of the command the chain leads to -/
theorem completion_after_command_words (target : Str) (P : Prog) (words : List Str) (node : Nat) (w : Str)
    (hw : ∀ x ∈ words, x ≠ dashdash ∧ (isOption x mode).2 = false)
    (hf : follows P 0 words = some node) :
    (completeArgs ext mode target P (words ++ [w])).comps =
      some (completionsAt ext target P (P.node node) [] w) := by
  have h := command_words_select ext mode words (initState P) node rfl rfl hw hf
  obtain ⟨h1, h2, h3, h4, h5, h6⟩ := h
  have := (completion_at_reached_level ext mode target P words w h5 h6).1
  rw [this]
  unfold run
  rw [h1, h2, h3]
  simp [initState]

/-- **Values offered after `--key=`.**  The value candidates are exactly the declared (or computed) values whose
full spelling `--key=value` starts with the typed word — each offered as that full spelling for zsh, and as the
text after the first `=` for bash; nothing else, and none of them left out. -/
theorem value_candidates (target k w : Str) (vals : List Str) (c : Str) :
    c ∈ valueCands target k w vals ↔
      ∃ e ∈ vals, hasPrefix (b "--" ++ k ++ [chEq] ++ e) w = true ∧
        c = (if target == b "bash" then afterEq (b "--" ++ k ++ [chEq] ++ e) else b "--" ++ k ++ [chEq] ++ e) := by
  unfold valueCands
  simp only [List.mem_filterMap]
  constructor
  · rintro ⟨e, he, h⟩
    by_cases hp : hasPrefix (b "--" ++ k ++ [chEq] ++ e) w = true
    · simp only [hp, ↓reduceIte, Option.some.injEq] at h
      exact ⟨e, he, hp, h.symm⟩
    · simp only [hp, Bool.false_eq_true, ↓reduceIte] at h
      cases h
  · rintro ⟨e, he, hp, hc⟩
    exact ⟨e, he, by simp only [hp, ↓reduceIte, Option.some.injEq]; exact hc.symm⟩

theorem length_filterMap_ite {α β} (l : List α) (p : α → Bool) (f : α → β) :
    (l.filterMap fun e => if p e = true then some (f e) else none).length = (l.filter p).length := by
  rw [List.length_filterMap_eq_countP, List.countP_eq_length_filter]
  congr; funext e; cases p e <;> rfl

/-- as many candidates as declared values that fit: a value declared twice is offered twice, none is dropped -/
theorem value_candidates_length (target k w : Str) (vals : List Str) :
    (valueCands target k w vals).length = (vals.filter fun e => hasPrefix (b "--" ++ k ++ [chEq] ++ e) w).length :=
  length_filterMap_ite vals (fun e => hasPrefix (b "--" ++ k ++ [chEq] ++ e) w)
    (fun e => if target == b "bash" then afterEq (b "--" ++ k ++ [chEq] ++ e) else b "--" ++ k ++ [chEq] ++ e)

example : valueCands (b "zsh") (b "env") (b "--env=d") [b "dev", b "staging", b "demo"] =
    [b "--env=dev", b "--env=demo"] ∧
  valueCands (b "bash") (b "env") (b "--env=d") [b "dev", b "staging", b "demo"] = [b "dev", b "demo"] := by decide +kernel

end GoModel
